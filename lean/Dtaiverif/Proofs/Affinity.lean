/-
Proofs/Affinity.lean — the affinity matrix: the executable row scan computes the recurrence; excluded
cells, non-negativity; the walk of `best_path`; the match search keeps the matches of an epoch disjoint
(`EpochInv`). Each part assumes of the numbers what it uses: no law at all for the scan, the walk and the
two matrix updates (only the operations the model is written with), a linear order for the clipping and
the first maximum, an ordered ring (negation turns positive into negative) for the search.
-/
import Mathlib.Algebra.Order.Ring.Defs
import Mathlib.Data.List.Chain
import Mathlib.Tactic.Common
import Dtaiverif.Model.Affinity
import Dtaiverif.Proofs.Scan

namespace Dtai

/-! ### the scan computes the recurrence, whatever the operations are -/

/-- `affRowFrom` is the row scan of the DTW model at the cell type `Option γ` -/
theorem affRowFrom_eq_rowFrom {γ : Type} (f : Nat → Option γ → Option γ → Option γ → Option γ) (j : Nat)
    (left : Option γ) (l : List (Option γ)) : affRowFrom f j left l = rowFrom f j left l := by
  fun_induction affRowFrom f j left l <;> simp_all +zetaDelta [rowFrom]

section
variable {β : Type} [Add β] [Sub β] [Mul β] [Max β] [LT β] [DecidableLT β] [Zero β]

theorem affSpec_zero_zero (g : AffGrid β) : affSpec g 0 0 = some 0 := by rw [affSpec]

theorem affSpec_zero_succ (g : AffGrid β) (J : Nat) : affSpec g 0 (J+1) = none := by rw [affSpec]

theorem affSpec_succ_zero (g : AffGrid β) (I : Nat) : affSpec g (I+1) 0 = none := by rw [affSpec]

theorem affSpec_in (g : AffGrid β) (I J : Nat) :
    affSpec g (I+1) (J+1) = affCell g I J (affSpec g I J) (affSpec g I (J+1)) (affSpec g (I+1) J) := by
  rw [affSpec]

theorem affRows_eq (g : AffGrid β) (I : Nat) : affRows g I = (List.range (g.c+1)).map (affSpec g I) := by
  induction I with
  | zero =>
    refine List.map_congr_left fun J _ => ?_
    cases J with
    | zero => exact (affSpec_zero_zero g).symm
    | succ J => exact (affSpec_zero_succ g J).symm
  | succ I ih =>
    rw [affRows, affRowFrom_eq_rowFrom, ← nextRow, ih, ← affSpec_succ_zero g I]
    exact nextRow_eq (affCell g I) (affSpec g I) (affSpec g (I+1)) g.c (affSpec_in g I)

/-- excluded cells: exactly the cells outside the band (and below the diagonal with `only_triu`) -/
theorem affSpec_none_iff (g : AffGrid β) (I J : Nat) : affSpec g (I+1) (J+1) = none ↔ g.inBand I J = false := by
  rw [affSpec_in, affCell]
  by_cases h : g.inBand I J = true <;> simp [h]

end

/-! ### clipping at 0 makes the cells non-negative: of the numbers only their order is used -/

section
variable {β : Type} [Add β] [Sub β] [Mul β] [Zero β] [LinearOrder β]

theorem affStep_nonneg (g : AffGrid β) (i j : Nat) (d u l : Option β) : 0 ≤ affStep g i j d u l := by
  unfold affStep
  simp only []
  split
  · exact le_rfl
  · split <;> exact le_max_left _ _

theorem affSpec_nonneg (g : AffGrid β) : ∀ I J v, affSpec g I J = some v → 0 ≤ v
  | 0, 0, v, h => by rw [affSpec_zero_zero] at h; cases h; exact le_rfl
  | 0, _+1, v, h => by rw [affSpec_zero_succ] at h; cases h
  | _+1, 0, v, h => by rw [affSpec_succ_zero] at h; cases h
  | I+1, J+1, v, h => by
    rw [affSpec_in, affCell] at h
    split at h
    · cases h; exact affStep_nonneg _ _ _ _ _ _
    · cases h

end

/-! ### the walk of `best_path` -/

section
variable {β : Type} [LT β] [DecidableLT β] [Zero β]

/-- backward step of the walk: to the diagonal, upper or left neighbour -/
def StepBack (a b : Nat × Nat) : Prop :=
  1 ≤ a.1 ∧ 1 ≤ a.2 ∧ (b = (a.1 - 1, a.2 - 1) ∨ b = (a.1 - 1, a.2) ∨ b = (a.1, a.2 - 1))

/-- `t` is a walk from `p`: it starts in `p`, moves by backward steps, and every cell after `p` is positive -/
def WalkFrom (wp : WP β) (p : Nat × Nat) (t : List (Nat × Nat)) : Prop :=
  ∃ rest, t = p :: rest ∧ (p :: rest).IsChain StepBack ∧ ∀ q ∈ rest, posVal (wp.get q.1 q.2) = true

theorem WalkFrom.stop (wp : WP β) (p : Nat × Nat) : WalkFrom wp p [p] :=
  ⟨[], rfl, .singleton _, nofun⟩

theorem WalkFrom.move {wp : WP β} {i j : Nat} {p : Nat × Nat} {t : List (Nat × Nat)} (hb : ¬(i = 0 ∨ j = 0))
    (hmove : p = (i - 1, j - 1) ∨ p = (i - 1, j) ∨ p = (i, j - 1)) (hpos : posVal (wp.get p.1 p.2) = true)
    (h : WalkFrom wp p t) : WalkFrom wp (i, j) ((i, j) :: t) := by
  obtain ⟨rest, rfl, hc, hq⟩ := h
  exact ⟨p :: rest, rfl, hc.cons_cons ⟨by omega, by omega, hmove⟩, List.forall_mem_cons.mpr ⟨hpos, hq⟩⟩

theorem lcTrace_spec (choose : Option β → Option β → Option β → Nat) (wp : WP β) (fuel i j : Nat) :
    WalkFrom wp (i, j) (lcTrace choose wp fuel i j) := by
  fun_induction lcTrace choose wp fuel i j with
  | case1 | case2 | case4 | case6 | case8 => exact .stop ..
  | case3 => exact .move ‹_› (.inl rfl) ‹_› ‹_›
  | case5 => exact .move ‹_› (.inr (.inl rfl)) ‹_› ‹_›
  | case7 => exact .move ‹_› (.inr (.inr rfl)) ‹_› ‹_›

theorem lcRaw_spec (choose : Option β → Option β → Option β → Nat) (wp : WP β) (r c : Nat)
    (hr : 1 ≤ r) (hc : 1 ≤ c) (hstart : posVal (wp.get r c) = true) :
    (lcRaw choose wp r c).IsChain StepBack ∧ (∀ q ∈ lcRaw choose wp r c, posVal (wp.get q.1 q.2) = true) ∧
      (lcRaw choose wp r c).head? = some (r, c) := by
  obtain ⟨rest, e, hchain, hpos⟩ := lcTrace_spec choose wp (r + c) r c
  have hall : ∀ q ∈ (r, c) :: rest, posVal (wp.get q.1 q.2) = true := List.forall_mem_cons.mpr ⟨hstart, hpos⟩
  simp only [lcRaw, e]
  split
  next i j hlast =>
    split
    next hborder =>
      cases rest with
      | nil =>
        -- the only cell is the start cell, which is not on a border
        cases hlast; omega
      | cons q rest =>
        exact ⟨hchain.prefix (List.dropLast_prefix _), fun q hq => hall q (List.dropLast_subset _ hq), rfl⟩
    next => exact ⟨hchain, hall, rfl⟩
  next => exact ⟨hchain, hall, rfl⟩

end

/-! ### the two updates of the working matrix, cell by cell -/

section
variable {β : Type} [Neg β]

theorem wpNegate_get (wp : WP β) (cells : List (Nat × Nat)) (i j : Nat) :
    (wpNegate wp cells).get i j = if (i, j) ∈ cells then (wp.get i j).map (- ·) else wp.get i j := by
  unfold wpNegate WP.get
  simp only [List.getElem?_mapIdx]
  cases hrow : wp[i]? with
  | none => simp
  | some row =>
    simp only [Option.map_some, Option.bind_some, List.getElem?_mapIdx]
    cases hv : row[j]? with
    | none => simp
    | some v => split <;> simp

variable [LT β] [DecidableLT β] [Zero β]

theorem wpPositivize_get (wp : WP β) (i j : Nat) :
    (wpPositivize wp).get i j = (wp.get i j).map fun x => if x < 0 then -x else x := by
  unfold wpPositivize WP.get
  rw [List.getElem?_map]
  cases wp[i]? with
  | none => rfl
  | some row =>
    rw [Option.map_some, Option.bind_some, Option.bind_some, List.getElem?_map]
    cases row[j]? with
    | none => rfl
    | some v =>
      cases v with
      | none => rfl
      | some x => exact (apply_ite some _ _ _).symm

end

/-! ### the start cell: first maximum by a fold -/

section
variable {β : Type} [LinearOrder β]

theorem ogt_trans (a b c : Option β) (h1 : ogt a b = true) (h2 : ogt b c = true) : ogt a c = true := by
  cases a <;> cases b <;> cases c <;> simp_all [ogt]
  exact lt_trans h2 h1

/-- the start cell chosen by the search is the origin or strictly above the origin's value -/
theorem wpArgmax_spec (wp : WP β) :
    wpArgmax wp = (0, 0) ∨ ogt (wp.get (wpArgmax wp).1 (wpArgmax wp).2) (wp.get 0 0) = true := by
  -- invariant of the fold: the best cell so far is the origin or beats the origin's value
  refine List.foldlRecOn (motive := fun best => best = (0, 0) ∨ ogt (wp.get best.1 best.2) (wp.get 0 0) = true)
    _ _ (.inl rfl) fun best h p _ => ?_
  split
  next hgt => exact .inr (h.elim (fun e => by subst e; exact hgt) (ogt_trans _ _ _ hgt))
  next => exact h

variable [Zero β]

theorem posVal_of_ogt_zero (v : Option β) (h : ogt v (some 0) = true) : posVal v = true := by
  cases v with
  | none => simp [ogt] at h
  | some x => simpa [ogt, posVal] using h

theorem wpArgmax_pos (wp : WP β) (h00 : wp.get 0 0 = some 0)
    (hb : ¬((wpArgmax wp).1 = 0 ∨ (wpArgmax wp).2 = 0)) :
    posVal (wp.get (wpArgmax wp).1 (wpArgmax wp).2) = true := by
  rcases wpArgmax_spec wp with h | h
  · rw [h] at hb; simp at hb
  · rw [h00] at h; exact posVal_of_ogt_zero _ h

end

/-! ### the match search: the cells of a returned match are negative from then on -/

variable {β : Type} [CommRing β] [LinearOrder β]

/-- the mark of a used cell: the search negates the cells of every match it returns -/
def negVal (v : Option β) : Bool :=
  match v with
  | some x => decide (x < 0)
  | none => false

theorem posVal_negVal_absurd {v : Option β} (hp : posVal v = true) (hn : negVal v = true) : False := by
  cases v with
  | none => cases hn
  | some x =>
    simp only [posVal, negVal, decide_eq_true_eq] at hp hn
    exact lt_asymm hp hn

/-- how the working matrix evolves: a cell keeps its value, or a positive cell has become negative -/
def Flip (wp wp' : WP β) : Prop :=
  ∀ i j, wp'.get i j = wp.get i j ∨ (posVal (wp.get i j) = true ∧ negVal (wp'.get i j) = true)

theorem Flip.refl (wp : WP β) : Flip wp wp := fun _ _ => Or.inl rfl

theorem Flip.trans {a b c : WP β} (h1 : Flip a b) (h2 : Flip b c) : Flip a c := by
  intro i j
  rcases h1 i j, h2 i j with ⟨h | ⟨hp, hn⟩, h' | ⟨hp', hn'⟩⟩
  · exact .inl (h'.trans h)
  · exact .inr ⟨h ▸ hp', hn'⟩
  · exact .inr ⟨hp, h' ▸ hn⟩
  · exact (posVal_negVal_absurd hp' hn).elim

/-- negative cells stay negative -/
theorem Flip.neg_of_neg {a b : WP β} (h : Flip a b) (i j : Nat) (hn : negVal (a.get i j) = true) :
    negVal (b.get i j) = true := by
  rcases h i j with h' | ⟨hp, _⟩
  · exact h' ▸ hn
  · exact (posVal_negVal_absurd hp hn).elim

theorem Flip.pos_of_pos {a b : WP β} (h : Flip a b) (i j : Nat) (hp : posVal (b.get i j) = true) :
    posVal (a.get i j) = true := by
  rcases h i j with h' | ⟨_, hn⟩
  · exact h' ▸ hp
  · exact (posVal_negVal_absurd hp hn).elim

theorem Flip.origin {a b : WP β} (h : Flip a b) (h00 : a.get 0 0 = some 0) : b.get 0 0 = some 0 := by
  rcases h 0 0 with h' | ⟨hp, _⟩
  · rw [h', h00]
  · simp [h00, posVal] at hp

theorem wpPositivize_get00 (wp : WP β) (h : wp.get 0 0 = some 0) : (wpPositivize wp).get 0 0 = some 0 := by
  rw [wpPositivize_get, h]; simp

/-- what the property says about one match, relative to the matrix `wp0` the search (epoch) started from -/
structure MatchOK (wp0 : WP β) (minlen : Nat) (m : LCMatchM) : Prop where
  start : m.cells.head? = some (m.row, m.col)
  chain : m.cells.IsChain StepBack
  len : minlen ≤ m.cells.length
  positive : ∀ q ∈ m.cells, posVal (wp0.get q.1 q.2) = true

theorem MatchOK.mono {wp0 wp : WP β} {minlen : Nat} {m : LCMatchM} (h : MatchOK wp minlen m)
    (hf : Flip wp0 wp) : MatchOK wp0 minlen m :=
  { h with positive := fun q hq => hf.pos_of_pos q.1 q.2 (h.positive q hq) }

def CellsDisjoint (a b : LCMatchM) : Prop := ∀ q, q ∈ a.cells → q ∉ b.cells

/-- state between calls: the matches of the current epoch (since the last reset that really made the
matrix positive again) are pairwise disjoint and all their cells are negative in the working matrix -/
structure EpochInv (wp : WP β) (live : List LCMatchM) : Prop where
  origin : wp.get 0 0 = some 0
  negative : ∀ m ∈ live, ∀ q ∈ m.cells, negVal (wp.get q.1 q.2) = true
  disjoint : live.Pairwise CellsDisjoint

theorem EpochInv.mono {wp wp' : WP β} {live : List LCMatchM} (h : EpochInv wp live) (hf : Flip wp wp') :
    EpochInv wp' live :=
  ⟨hf.origin h.origin, fun m hm q hq => hf.neg_of_neg _ _ (h.negative m hm q hq), h.disjoint⟩

/-- a match through cells that were positive joins the matches of the epoch -/
theorem EpochInv.snoc {wp wp' : WP β} {live : List LCMatchM} (h : EpochInv wp live) (hf : Flip wp wp')
    {m : LCMatchM} (hpos : ∀ q ∈ m.cells, posVal (wp.get q.1 q.2) = true)
    (hneg : ∀ q ∈ m.cells, negVal (wp'.get q.1 q.2) = true) : EpochInv wp' (live ++ [m]) where
  origin := hf.origin h.origin
  negative := fun m' hm' q hq => by
    rcases List.mem_append.mp hm' with hl | hs
    · exact hf.neg_of_neg _ _ (h.negative m' hl q hq)
    · rw [List.mem_singleton.mp hs] at hq; exact hneg q hq
  disjoint := by
    refine List.pairwise_append.mpr ⟨h.disjoint, List.pairwise_singleton _ _, fun a ha b hb q hqa hqb => ?_⟩
    -- q would be negative (cell of an earlier match) and positive (cell of the new match) in `wp`
    rw [List.mem_singleton.mp hb] at hqb
    exact posVal_negVal_absurd (hpos q hqb) (h.negative a ha q hqa)

variable [IsStrictOrderedRing β]

theorem negVal_neg_of_posVal (v : Option β) (h : posVal v = true) : negVal (v.map (- ·)) = true := by
  cases v with
  | none => simp [posVal] at h
  | some x =>
    simp only [posVal, decide_eq_true_eq] at h
    simp only [Option.map_some, negVal, decide_eq_true_eq]
    exact neg_neg_of_pos h

/-- negating the cells of a match flips them, and only them -/
theorem wpNegate_spec (wp : WP β) (cells : List (Nat × Nat))
    (hpos : ∀ q ∈ cells, posVal (wp.get q.1 q.2) = true) :
    Flip wp (wpNegate wp cells) ∧ ∀ q ∈ cells, negVal ((wpNegate wp cells).get q.1 q.2) = true := by
  have hneg : ∀ q ∈ cells, negVal ((wpNegate wp cells).get q.1 q.2) = true := fun q hq => by
    rw [wpNegate_get, if_pos hq]; exact negVal_neg_of_posVal _ (hpos q hq)
  refine ⟨fun i j => ?_, hneg⟩
  by_cases hmem : (i, j) ∈ cells
  · exact .inr ⟨hpos _ hmem, hneg _ hmem⟩
  · exact .inl (by rw [wpNegate_get, if_neg hmem])

/-- one search step (`lcNext`): the matrix only flips positive cells; a returned match starts in the
cell it is named after, is a chain of backward steps, runs through cells that are positive in the matrix
the step started from (hence were never used before) and that are negative afterwards, and is at
least `minlen` long -/
theorem lcNext_spec (choose : Option β → Option β → Option β → Nat) (minlen fuel : Nat) (wp : WP β)
    (h00 : wp.get 0 0 = some 0) :
    Flip wp (lcNext choose minlen fuel wp).2 ∧
      ∀ m, (lcNext choose minlen fuel wp).1 = some m →
        MatchOK wp minlen m ∧ ∀ q ∈ m.cells, negVal ((lcNext choose minlen fuel wp).2.get q.1 q.2) = true := by
  induction fuel generalizing wp with
  | zero => exact ⟨Flip.refl wp, nofun⟩
  | succ fuel ih =>
    unfold lcNext
    simp only []
    by_cases hb : (wpArgmax wp).1 = 0 ∨ (wpArgmax wp).2 = 0
    · rw [if_pos hb]; exact ⟨Flip.refl wp, nofun⟩
    · rw [if_neg hb]
      -- only the positivity of the start cell matters from here on; left in the goal, `wpArgmax wp` (a fold)
      -- would be unfolded by every unification against `idx.1`, which is slow to check
      have hstart := wpArgmax_pos wp h00 hb
      generalize wpArgmax wp = idx at hb hstart ⊢
      obtain ⟨hchain, hpos, hhead⟩ := lcRaw_spec choose wp idx.1 idx.2 (by omega) (by omega) hstart
      obtain ⟨hflip, hneg⟩ := wpNegate_spec wp _ hpos
      split
      next =>
        obtain ⟨f2, m2⟩ := ih _ (hflip.origin h00)
        exact ⟨hflip.trans f2, fun m hm => ⟨(m2 m hm).1.mono hflip, (m2 m hm).2⟩⟩
      next hlen =>
        exact ⟨hflip, fun m hm => by cases hm; exact ⟨⟨hhead, hchain, Nat.le_of_not_lt hlen, hpos⟩, hneg⟩⟩

/-- the loop of `kbest_matches` (`lcCall.go`), started anywhere: `wp0` is the matrix the call started
from, `old` the matches the new ones have to avoid, `acc` the matches found so far (last first) -/
theorem lcGo_spec (choose : Option β → Option β → Option β → Nat) (k : Option Nat) (minlen ncells : Nat)
    (wp0 : WP β) (old : List LCMatchM) (fuel ki : Nat) (wp : WP β) (acc : List LCMatchM)
    (hf : Flip wp0 wp) (hinv : EpochInv wp (old ++ acc.reverse)) (hacc : ∀ m ∈ acc, MatchOK wp0 minlen m)
    (hki : ki = acc.length) :
    let res := lcCall.go choose k minlen ncells fuel ki wp acc
    (∀ m ∈ res.1, MatchOK wp0 minlen m) ∧ EpochInv res.2 (old ++ res.1) ∧
      ∀ kk, k = some kk → acc.length ≤ kk → res.1.length ≤ kk := by
  fun_induction lcCall.go choose k minlen ncells fuel ki wp acc with
  | case1 ki wp acc => exact ⟨by simpa using hacc, hinv, by simp⟩
  | case2 fuel ki wp acc hstop => exact ⟨by simpa using hacc, hinv, by simp⟩
  | case3 fuel ki wp acc hstop wp' hnext =>
    have := (lcNext_spec choose minlen (ncells + 1) wp hinv.origin).1
    rw [hnext] at this
    exact ⟨by simpa using hacc, hinv.mono this, by simp⟩
  | case4 fuel ki wp acc hstop m wp' hnext ih =>
    obtain ⟨nf, nm⟩ := lcNext_spec choose minlen (ncells + 1) wp hinv.origin
    rw [hnext] at nf nm
    obtain ⟨hm, hneg⟩ := nm m rfl
    obtain ⟨r1, r2, r3⟩ := ih (hf.trans nf) (by simpa using hinv.snoc nf hm.positive hneg)
      (List.forall_mem_cons.mpr ⟨hm.mono hf, hacc⟩) (by simp [hki])
    refine ⟨r1, r2, fun kk hk _ => r3 kk hk ?_⟩
    -- the loop guard failed, so fewer than kk matches had been produced
    simp only [hk, kDone, decide_eq_true_eq] at hstop
    simp only [List.length_cons]
    omega

end Dtai
