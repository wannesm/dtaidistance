/-
Proofs/Lists.lean — facts about lists of numbers that do not mention the model: where an entry of a `flatMap` over
`range'` sits, the sum `(k-1) + … + 0`, and counting in duplicate-free lists of numbers below `n`.
(`minList` and `getT`, the list operations of Model/Basic.lean, are in Proofs/Basic.lean.)
-/
import Mathlib.Tactic.Common
import Batteries.Data.List.Perm

namespace Dtai

/-- In the concatenation of the blocks `f s, f (s+1), …`, entry `i` of block `s + a` comes after the
blocks before it. -/
theorem getElem?_flatMap_range' {γ : Type} (f : Nat → List γ) (s n a i : Nat) (ha : a < n)
    (hi : i < (f (s + a)).length) :
    ((List.range' s n).flatMap f)[((List.range' s a).map fun r => (f r).length).sum + i]? = (f (s + a))[i]? := by
  have hrows : List.range' s n = List.range' s a ++ (s + a) :: List.range' (s + a + 1) (n - a - 1) := by
    rw [← List.range'_succ, List.range'_append_1]; congr 1; omega
  rw [hrows, List.flatMap_append, List.flatMap_cons, List.getElem?_append_right (by simp [List.length_flatMap]),
    List.length_flatMap, Nat.add_sub_cancel_left, List.getElem?_append_left hi]

/-- `(k-1) + (k-2) + … + 0`, doubled -/
theorem sum_range'_countdown (s k : Nat) :
    ((List.range' s k).map fun r => s + k - (r + 1)).sum * 2 = k * (k - 1) := by
  induction k generalizing s with
  | zero => rfl
  | succ k ih =>
    have := ih (s + 1)
    rw [show s + 1 + k = s + (k + 1) by omega] at this
    rw [List.range'_succ, List.map_cons, List.sum_cons, Nat.add_mul, this, Nat.add_sub_cancel,
      show s + (k + 1) - (s + 1) = k by omega, Nat.mul_sub_one, Nat.succ_mul]
    have := Nat.le_mul_self k   -- makes the truncated `k * k - k` exact
    omega

/-! ### duplicate-free lists of numbers below `n` (pigeonhole) -/

theorem subperm_range {l : List Nat} {n : Nat} (hn : l.Nodup) (hlt : ∀ x ∈ l, x < n) :
    l.Subperm (List.range n) :=
  List.subperm_of_subset hn fun x hx => List.mem_range.mpr (hlt x hx)

/-- a duplicate-free list of `m` numbers below `m` contains every number below `m` -/
theorem nodup_full {l : List Nat} {m : Nat} (hn : l.Nodup) (hlen : l.length = m) (hlt : ∀ x ∈ l, x < m) :
    ∀ x, x < m → x ∈ l := fun x hx =>
  ((subperm_range hn hlt).perm_of_length_le (by simp [hlen])).mem_iff.mpr (List.mem_range.mpr hx)

/-- a duplicate-free list of at most `n - 2` numbers below `n` misses two numbers below `n` -/
theorem exists_two_not_mem {l : List Nat} {n : Nat} (hn : l.Nodup) (hlt : ∀ x ∈ l, x < n)
    (hlen : l.length + 2 ≤ n) : ∃ a b, a < b ∧ b < n ∧ a ∉ l ∧ b ∉ l := by
  obtain ⟨a, sa⟩ := (subperm_range hn hlt).exists_of_length_lt (by simp; omega)
  obtain ⟨b, sb⟩ := sa.exists_of_length_lt (by simp; omega)
  obtain ⟨l', hp, hs⟩ := sb
  have hnd : (b :: a :: l).Nodup := hp.nodup_iff.mp (List.nodup_range.sublist hs)
  have hmem : ∀ x ∈ b :: a :: l, x < n := fun x hx => List.mem_range.mp (hs.subset (hp.mem_iff.mpr hx))
  simp only [List.nodup_cons, List.mem_cons, not_or] at hnd
  have ha := hmem a (by simp)
  have hb := hmem b (by simp)
  rcases Nat.lt_or_gt_of_ne hnd.1.1 with h | h
  · exact ⟨b, a, h, ha, hnd.1.2, hnd.2.1⟩
  · exact ⟨a, b, h, hb, hnd.2.1, hnd.1.2⟩

end Dtai
