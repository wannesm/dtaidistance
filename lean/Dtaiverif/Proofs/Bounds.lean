/-
Proofs/Bounds.lean — C09: LB_Keogh ≤ DTW ≤ Euclidean bound.
-/
import Dtaiverif.Proofs.Dist
import Dtaiverif.Model.Bounds

namespace Dtai

variable {α : Type} [LinearOrderedAddCommMonoidWithTop α]

/-! ### sums: `lbUpTo f n` is `f 0 + … + f n` -/

/-- sum of the per-row lower bounds of rows `0..i` -/
def lbUpTo (lb : Nat → α) : Nat → α
  | 0 => lb 0
  | i+1 => lb (i+1) + lbUpTo lb i

theorem lbUpTo_congr {f f' : Nat → α} {n : Nat} (h : ∀ k ≤ n, f k = f' k) : lbUpTo f n = lbUpTo f' n := by
  induction n with
  | zero => exact h 0 le_rfl
  | succ n ih => rw [lbUpTo, lbUpTo, h (n+1) le_rfl, ih fun k hk => h k (by omega)]

theorem sumList_concat (l : List α) (x : α) : sumList (l ++ [x]) = x + sumList l := by
  induction l with
  | nil => simp [sumList]
  | cons y ys ih =>
    simp only [List.cons_append, sumList, List.foldr_cons] at ih ⊢
    rw [ih, add_left_comm]

theorem sumList_map_range_succ (f : Nat → α) (n : Nat) :
    sumList ((List.range (n+1)).map f) = lbUpTo f n := by
  induction n with
  | zero => simp [sumList, lbUpTo]
  | succ n ih => rw [List.range_succ, List.map_append, List.map_singleton, sumList_concat, ih, lbUpTo]

/-! ### DTW ≤ ED : the "diagonal, then along the border" path is admissible -/

/-- cell `k` of the Euclidean alignment -/
def edCell (r c k : Nat) : Cell := (min k (r - 1), min k (c - 1))

/-- the Euclidean alignment before cell `k`, end first -/
def edTailRev (r c : Nat) : Nat → List Cell
  | 0 => []
  | k+1 => edCell r c k :: edTailRev r c k

theorem edSum_eq (cost : Nat → Nat → α) (r c : Nat) (h : 1 ≤ max r c) :
    edSum cost r c = lbUpTo (fun k => cost (edCell r c k).1 (edCell r c k).2) (max r c - 1) := by
  rw [← sumList_map_range_succ, Nat.sub_add_cancel h, edSum, edPairs, List.map_map]
  rfl

/-- on equal lengths the Euclidean distance is the sum over the diagonal -/
theorem edSum_diag (g : Grid α) (hr : 1 ≤ g.r) (heq : g.r = g.c) :
    edSum g.cost g.r g.c = lbUpTo (fun i => g.cost i i) (g.r - 1) := by
  rw [edSum_eq _ _ _ (by omega), ← heq, max_self]
  exact lbUpTo_congr fun k hk => by simp only [edCell]; congr 1 <;> omega

/-- the Euclidean alignment is an admissible path and (with `pen = 0` or equal lengths) its cost is the
sum of the point costs along it -/
theorem edPath_valid (g : Grid α) (hr : 1 ≤ g.r) (hc : 1 ≤ g.c) (hw : 1 ≤ g.window)
    (hms : g.maxStep = ⊤) (hpen : g.pen = 0 ∨ g.r = g.c) :
    ∀ k, k < max g.r g.c →
      g.ValidRev (edCell g.r g.c k :: edTailRev g.r g.c k) ∧
      g.costRev (edCell g.r g.c k :: edTailRev g.r g.c k) =
        lbUpTo (fun k' => g.cost (edCell g.r g.c k').1 (edCell g.r g.c k').2) k := by
  have hok : ∀ k, g.ok (edCell g.r g.c k).1 (edCell g.r g.c k).2 = true := by
    intro k
    rw [ok_iff, inBand_iff, hms]
    exact ⟨by simp only [edCell]; omega, le_top⟩
  intro k
  induction k with
  | zero => exact fun hk => ⟨⟨Or.inl ⟨by simp [edCell], by simp [edCell]⟩, hok 0⟩, rfl⟩
  | succ k ih =>
    intro hk
    obtain ⟨hv, hc'⟩ := ih (by omega)
    have hstep : IsStep (edCell g.r g.c k) (edCell g.r g.c (k+1)) := by
      simp only [isStep_iff, edCell]; omega
    -- a penalised step occurs only along the border, i.e. for unequal lengths
    have hsp : g.stepPen (edCell g.r g.c k) (edCell g.r g.c (k+1)) = 0 := by
      rcases hpen with h0 | heq
      · rw [Grid.stepPen, h0, ite_self]
      · rw [Grid.stepPen, if_pos (by simp only [edCell]; omega)]
    exact ⟨⟨hstep, hok (k+1), hv⟩, by rw [edTailRev, Grid.costRev, hc', hsp, add_zero, lbUpTo]⟩

/-- **DTW ≤ ED** for every window ≥ 1, any psi, no max_step, when there is no penalty or the series
have equal length -/
theorem dtw_le_ed (g : Grid α) (h : g.NonNeg) (hr : 1 ≤ g.r) (hc : 1 ≤ g.c) (hw : 1 ≤ g.window)
    (hms : g.maxStep = ⊤) (hpen : g.pen = 0 ∨ g.r = g.c) :
    dtwSpec g ≤ edSum g.cost g.r g.c := by
  obtain ⟨hv, hcost⟩ := edPath_valid g hr hc hw hms hpen (max g.r g.c - 1) (by omega)
  have hend : g.EndOk (edCell g.r g.c (max g.r g.c - 1)) := by
    simp only [Grid.EndOk, edCell]; omega
  rw [edSum_eq _ _ _ (by omega), ← hcost]
  exact dtwSpec_le_path g _ _ hv hend

/-! ### LB ≤ DTW -/

/-- Generic lower-bound theorem: if `lb i` bounds the point cost of every admissible cell of row `i`
from below, then without relaxation of series 1 every admissible path ending in row `i` costs at least
`lb 0 + … + lb i` (each row is visited, steps never skip a row). -/
theorem lb_le_costRev (g : Grid α) (h : g.NonNeg) (lb : Nat → α)
    (hlb : ∀ i j, g.ok i j = true → lb i ≤ g.cost i j) (hpsi : g.psi1b = 0) :
    ∀ (path : List Cell) (q : Cell), g.ValidRev (q :: path) → lbUpTo lb q.1 ≤ g.costRev (q :: path) := by
  intro path
  induction path with
  | nil =>
    intro q ⟨hs, hok⟩
    have hq0 : q.1 = 0 := by unfold Grid.StartOk at hs; omega
    rw [Grid.costRev, hq0, lbUpTo]
    exact hq0 ▸ hlb q.1 q.2 hok
  | cons p rest ih =>
    intro q ⟨hstep, hok, hrest⟩
    rw [Grid.costRev]
    have hinner : lbUpTo lb p.1 ≤ g.costRev (p :: rest) + g.stepPen p q :=
      (ih p hrest).trans (le_add_of_nonneg_right (stepPen_nonneg g h p q))
    -- the step enters a new row, whose bound the cost of `q` pays, or stays in the row
    have hrow : q.1 = p.1 + 1 ∨ q.1 = p.1 := by have := (isStep_iff p q).mp hstep; omega
    rcases hrow with h1 | h1
    · rw [h1, lbUpTo]; exact add_le_add (h1 ▸ hlb q.1 q.2 hok) hinner
    · rw [h1]; exact le_trans hinner (le_add_of_nonneg_left (h.cost _ _))

/-- **LB ≤ DTW** (no psi on series 1, any penalty ≥ 0, any window) -/
theorem lb_le_dtw (g : Grid α) (h : g.NonNeg) (hn : g.NonDegenerate) (lb : Nat → α)
    (hlb : ∀ i j, g.ok i j = true → lb i ≤ g.cost i j) (hpsi : g.psi1b = 0) (hpsie : g.psi1e = 0) :
    lbUpTo lb (g.r - 1) ≤ dtwSpec g := by
  rcases dtwSpec_attained g h hn with ht | ⟨q, path, hv, he, hc⟩
  · rw [ht]; exact le_top
  · rw [← hc]
    have hq : q.1 = g.r - 1 := by
      rcases he with ⟨h1, _, _⟩ | ⟨_, h2, h3⟩ <;> omega
    rw [← hq]
    exact lb_le_costRev g h lb hlb hpsi path q hv

/-! ### the Keogh envelope term is such a row bound (integer data) -/

/-- the slice `s2[imin:imax]` used by `lb_keogh` is exactly the window band of row `i` -/
theorem envelope_is_band {β : Type} (g : Grid β) (hw : 1 ≤ g.window) (i : Nat) :
    i - ((g.r - g.c) + g.window - 1) = g.jStart i ∧ min g.c (i + (g.c - g.r) + g.window) = g.jEnd i := by
  unfold Grid.jStart
  exact ⟨by omega, rfl⟩

/-- the slice `[lo, hi)` of a sequence contains its element `j` -/
theorem mem_map_range_sub {β : Type} (f : Nat → β) {lo hi j : Nat} (h1 : lo ≤ j) (h2 : j < hi) :
    f j ∈ (List.range (hi - lo)).map fun k => f (lo + k) :=
  List.mem_map.mpr ⟨j - lo, List.mem_range.mpr (by omega), by congr 1; omega⟩

/-- the Keogh term of a value `ci` against a segment — the distance to the violated side of the envelope
of the segment, `0` inside it — bounds the distance of `ci` to every element of the segment -/
theorem keogh_seg_le (dist : Int → Int → Nat)
    (hhi : ∀ ci ui y : Int, y ≤ ui → ui < ci → dist ci ui ≤ dist ci y)
    (hlo : ∀ ci li y : Int, li ≤ y → ci < li → dist ci li ≤ dist ci y)
    (ci : Int) (seg : List Int) (y : Int) (hy : y ∈ seg) :
    (match (generalizing := false) seg with
      | [] => 0
      | x :: xs =>
        if ci > xs.foldl max x then dist ci (xs.foldl max x)
        else if ci < xs.foldl min x then dist ci (xs.foldl min x) else 0) ≤ dist ci y := by
  cases seg with
  | nil => simp at hy
  | cons x xs =>
    -- `xs.foldl max x`, `xs.foldl min x` are `List.max`, `List.min` of the segment
    simp only []
    split_ifs with h1 h2
    · exact hhi _ _ _ (List.le_max_of_mem (l := x :: xs) hy) h1
    · exact hlo _ _ _ (List.min_le_of_mem (l := x :: xs) hy) h2
    · exact Nat.zero_le _

/-- one term of `lb_keogh` is a lower bound of the point distance to every element of the envelope
window (`dist` = squared or absolute difference); beyond the last row the term reads as `0` -/
theorem keogh_term_le (dist : Int → Int → Nat)
    (hhi : ∀ ci ui y : Int, y ≤ ui → ui < ci → dist ci ui ≤ dist ci y)
    (hlo : ∀ ci li y : Int, li ≤ y → ci < li → dist ci li ≤ dist ci y)
    (s1 s2 : Array Int) (r c window i j : Nat)
    (hj1 : i - ((r - c) + window - 1) ≤ j) (hj2 : j < min c (i + (c - r) + window)) :
    (lbKeoghTerms dist s1 s2 r c window).getD i 0 ≤ dist (s1.getD i 0) (s2.getD j 0) := by
  by_cases hi : i < r
  swap
  · have hlen : (lbKeoghTerms dist s1 s2 r c window).length ≤ i := by
      rw [lbKeoghTerms, List.length_map, List.length_range]; exact not_lt.mp hi
    rw [List.getD_eq_getElem?_getD, List.getElem?_eq_none hlen]
    exact Nat.zero_le _
  simp only [lbKeoghTerms, List.getD, List.getElem?_map, List.getElem?_range hi, Option.map_some, Option.getD_some]
  exact keogh_seg_le dist hhi hlo _ _ _ (mem_map_range_sub (fun k => s2.getD k 0) hj1 hj2)

end Dtai
