/-
Proofs/SubseqIterRun.lean — the executable k-best iterator `kbestRun` (what the driver runs and what is
compared with `SubsequenceAlignment.kbest_matches`) only performs `Reach` steps: every invariant proved
for reachable iterator states holds for what the driver computes.
-/
import Dtaiverif.Proofs.SubseqIter
import Dtaiverif.Proofs.CostInst

namespace Dtai

/-- the working copy as a function (slots beyond the end never hold a value) -/
def absSlots (slots : List (Slot Cost)) : Nat → Slot Cost := fun j => slots.getD j Slot.rejected

theorem absSlots_eq_val {slots : List (Slot Cost)} {j : Nat} {w : Cost} :
    absSlots slots j = Slot.val w ↔ slots[j]? = some (Slot.val w) := by
  rw [absSlots, List.getD_eq_getElem?_getD]
  cases slots[j]? <;> simp

/-- `best` is a minimal value among the slots `pre` scanned so far, with a position of `full` that holds it -/
def FMInv (full pre : List (Slot Cost)) : Option (Nat × Cost) → Prop
  | none => ∀ w, Slot.val w ∉ pre
  | some (bi, bv) => full[bi]? = some (Slot.val bv) ∧ ∀ w, Slot.val w ∈ pre → bv ≤ w

/-- scanning `l` after `pre` carries the invariant from `pre` to the whole list -/
theorem firstMin_go_spec (l pre : List (Slot Cost)) (best : Option (Nat × Cost))
    (h : FMInv (pre ++ l) pre best) : FMInv (pre ++ l) (pre ++ l) (firstMin.go l pre.length best) := by
  induction l generalizing pre best with
  | nil => simpa [firstMin.go] using h
  | cons x rest ih =>
    have hx : (pre ++ x :: rest)[pre.length]? = some x := by simp
    -- one position further: `x` joins the scanned part
    have step : ∀ best', FMInv (pre ++ x :: rest) (pre ++ [x]) best' →
        FMInv (pre ++ x :: rest) (pre ++ x :: rest) (firstMin.go rest (pre.length + 1) best') := by
      intro best' h'
      simpa using ih (pre ++ [x]) best' (by simpa using h')
    cases x with
    | val u =>
      -- a bound for the scanned values that also bounds `u` bounds the scanned values after this position
      have push : ∀ {bv : Cost}, (∀ w, Slot.val w ∈ pre → bv ≤ w) → bv ≤ u →
          ∀ w, Slot.val w ∈ pre ++ [Slot.val u] → bv ≤ w := by
        intro bv hpre hu w hw
        rcases List.mem_append.mp hw with hp | hw
        · exact hpre w hp
        · cases List.mem_singleton.mp hw; exact hu
      cases best with
      | none => exact step _ ⟨hx, push (fun w hp => absurd hp (h w)) le_rfl⟩
      | some p =>
        obtain ⟨bi, bv⟩ := p
        obtain ⟨hb, hmin⟩ := h
        simp only [firstMin.go]
        split
        next hle => exact step _ ⟨hb, push hmin hle⟩
        next hnle => exact step _ ⟨hx, push (fun w hp => (le_of_not_ge hnle).trans (hmin w hp)) le_rfl⟩
    | rejected | blocked =>
      refine step best ?_
      cases best with
      | none => exact fun w hw => h w (by simpa using hw)
      | some p => exact ⟨h.1, fun w hw => h.2 w (by simpa using hw)⟩

/-- `firstMin` returns a position holding a minimal value (the `argmin` of the Python code) -/
theorem firstMin_spec (slots : List (Slot Cost)) (e : Nat) (v : Cost) (h : firstMin slots = some (e, v)) :
    e < slots.length ∧ absSlots slots e = Slot.val v ∧ ∀ j w, absSlots slots j = Slot.val w → v ≤ w := by
  have := firstMin_go_spec slots [] none (fun w hw => by simp at hw)
  rw [List.nil_append, List.length_nil, ← firstMin, h] at this
  obtain ⟨he, hmin⟩ := this
  exact ⟨(List.getElem?_eq_some_iff.mp he).1, absSlots_eq_val.mpr he,
    fun j w hw => hmin w (List.mem_of_getElem? (absSlots_eq_val.mp hw))⟩

/-! ### the two updates of the working copy: seen through `absSlots` they are the slot functions of
`IterState.reject` and `IterState.accept` -/

section
variable {β : Type}

theorem getD_set (l : List β) (i : Nat) (x d : β) (j : Nat) :
    (l.set i x).getD j d = if j = i ∧ j < l.length then x else l.getD j d := by
  simp only [List.getD_eq_getElem?_getD, List.getElem?_set]
  by_cases hij : i = j
  · subst hij; by_cases hi : i < l.length <;> simp [hi]
  · simp [hij, Ne.symm hij]

theorem length_foldl_set (is : List Nat) (x : β) (l : List β) :
    (is.foldl (fun s j => s.set j x) l).length = l.length := by
  induction is generalizing l with
  | nil => rfl
  | cons i is ih => rw [List.foldl_cons, ih, List.length_set]

/-- setting the positions `is` to `x` -/
theorem getD_foldl_set (is : List Nat) (x d : β) (l : List β) (j : Nat) :
    (is.foldl (fun s j => s.set j x) l).getD j d = if j ∈ is ∧ j < l.length then x else l.getD j d := by
  induction is generalizing l with
  | nil => simp
  | cons i is ih =>
    rw [List.foldl_cons, ih, List.length_set, getD_set]
    by_cases h : j ∈ is ∧ j < l.length
    · rw [if_pos h, if_pos ⟨List.mem_cons_of_mem _ h.1, h.2⟩]
    · rw [if_neg h]
      refine if_congr ⟨fun ⟨h1, h2⟩ => ⟨h1 ▸ List.mem_cons_self, h2⟩, fun ⟨h1, h2⟩ => ⟨?_, h2⟩⟩ rfl rfl
      exact (List.mem_cons.mp h1).resolve_right fun h' => h ⟨h', h2⟩

end

theorem absSlots_set (slots : List (Slot Cost)) (e : Nat) (x : Slot Cost) (he : e < slots.length) :
    absSlots (slots.set e x) = fun j => if j = e then x else absSlots slots j := by
  funext j
  rw [absSlots, getD_set]
  by_cases hje : j = e
  · simp [hje, he]
  · simp [hje, absSlots]

theorem mem_blockRange {overlap b e j : Nat} : j ∈ blockRange overlap b e ↔ mbOf overlap b e ≤ j ∧ j ≤ e := by
  simp only [blockRange, List.mem_map, List.mem_range]
  constructor
  · rintro ⟨i, hi, rfl⟩; omega
  · intro h; exact ⟨j - mbOf overlap b e, by omega, by omega⟩

theorem length_blockSlots (slots : List (Slot Cost)) (overlap b e : Nat) :
    (blockSlots slots overlap b e).length = slots.length :=
  length_foldl_set _ _ _

theorem absSlots_blockSlots (slots : List (Slot Cost)) (overlap b e : Nat) (he : e < slots.length) :
    absSlots (blockSlots slots overlap b e) =
      fun j => if mbOf overlap b e ≤ j ∧ j ≤ e then Slot.blocked else absSlots slots j := by
  funext j
  rw [absSlots, blockSlots, getD_foldl_set]
  simp only [mem_blockRange]
  by_cases hj : mbOf overlap b e ≤ j ∧ j ≤ e
  · rw [if_pos hj, if_pos ⟨hj, by omega⟩]
  · rw [if_neg hj, if_neg fun h => hj h.1, absSlots]

theorem candRejected_false (slots : List (Slot Cost)) (overlap : Nat) (minlen maxlen : Option Nat) (b e : Nat)
    (h : candRejected slots overlap minlen maxlen b e = false) :
    minlen.getD 0 ≤ e - b + 1 ∧ (∀ ml, maxlen = some ml → e - b + 1 ≤ ml) ∧
    ∀ j, mbOf overlap b e ≤ j → j ≤ e → absSlots slots j ≠ Slot.blocked := by
  simp only [candRejected, Bool.or_eq_false_iff, List.any_eq_false, mem_blockRange, beq_iff_eq] at h
  obtain ⟨⟨h1, h2⟩, h3⟩ := h
  refine ⟨?_, ?_, fun j hj1 hj2 => h3 j ⟨hj1, hj2⟩⟩
  · cases minlen with
    | none => exact Nat.zero_le _
    | some m => simpa using h1
  · rintro ml rfl
    simpa using h2

/-- **Link**: started from a reachable state, the executable iterator produces its matches through
`Reach` steps — there is a reachable final state whose yielded segments are exactly (in order) the
segments already yielded followed by the output of `kbestRun`. -/
theorem kbestRun_reach (starts : List Nat) (lq overlap : Nat) (minlen maxlen k : Option Nat)
    (init : Nat → Slot Cost) (n : Nat) (hstarts : ∀ e, starts.getD e 0 ≤ e) :
    ∀ (fuel : Nat) (slots : List (Slot Cost)) (ki : Nat) (st : IterState Cost),
      Reach n overlap (minlen.getD 0) maxlen (fun e => starts.getD e 0) init st →
      slots.length = n → st.slots = absSlots slots →
      ∃ st', Reach n overlap (minlen.getD 0) maxlen (fun e => starts.getD e 0) init st' ∧
        (st'.yielded.map fun m => (m.b, m.e)) =
          (kbestRun starts lq overlap minlen maxlen k fuel slots ki).reverse ++ (st.yielded.map fun m => (m.b, m.e)) := by
  intro fuel
  induction fuel with
  | zero => intro slots ki st hr _ _; exact ⟨st, hr, rfl⟩
  | succ fuel ih =>
    intro slots ki st hr hlen habs
    have stop : ∃ st', Reach n overlap (minlen.getD 0) maxlen (fun e => starts.getD e 0) init st' ∧
        (st'.yielded.map fun m => (m.b, m.e)) = [].reverse ++ (st.yielded.map fun m => (m.b, m.e)) :=
      ⟨st, hr, rfl⟩
    rw [kbestRun]
    split
    · exact stop
    split
    · exact stop
    next e v hfm =>
      obtain ⟨he, hval, hmin⟩ := firstMin_spec slots e v hfm
      rw [← habs] at hval hmin
      split
      next hrej =>
        refine ih _ ki (st.reject e) (Reach.reject st e v hr hval) (by rw [List.length_set, hlen]) ?_
        rw [absSlots_set slots e _ he, ← habs]
        rfl
      next hacc =>
        obtain ⟨c1, c2, c3⟩ := candRejected_false slots overlap minlen maxlen _ e (Bool.not_eq_true _ ▸ hacc)
        obtain ⟨st', hr', heq⟩ := ih _ (ki + 1) (st.accept overlap ⟨starts.getD e 0, e, v⟩)
          (Reach.accept st e v hr (hlen ▸ he) hval (fun j w _ => hmin j w) (hstarts e) c1 c2
            (habs ▸ c3))
          ((length_blockSlots ..).trans hlen) (by rw [absSlots_blockSlots _ _ _ _ he, ← habs]; rfl)
        exact ⟨st', hr', by rw [heq]; simp [IterState.accept]⟩

/-- an extra stopping rule only shortens the iteration: whatever the rule, the matches are a prefix of the
matches of the unlimited iterator with the same overlap and length limits — and all of them if the rule
never fires -/
theorem kbestRunStop_spec (stop : List (Nat × Cost) → Nat → Cost → Bool) (starts : List Nat) (lq overlap : Nat)
    (minlen maxlen k : Option Nat) (fuel : Nat) :
    ∀ (slots : List (Slot Cost)) (ki : Nat) (hist : List (Nat × Cost)),
      kbestRunStop stop starts lq overlap minlen maxlen k fuel slots ki hist <+:
        kbestRun starts lq overlap minlen maxlen k fuel slots ki ∧
      ((∀ h i v, stop h i v = false) →
        kbestRunStop stop starts lq overlap minlen maxlen k fuel slots ki hist =
          kbestRun starts lq overlap minlen maxlen k fuel slots ki) := by
  induction fuel with
  | zero => exact fun _ _ _ => ⟨List.prefix_rfl, fun _ => rfl⟩
  | succ fuel ih =>
    intro slots ki hist
    rw [kbestRunStop, kbestRun]
    split
    · exact ⟨List.prefix_rfl, fun _ => rfl⟩
    split
    · exact ⟨List.prefix_rfl, fun _ => rfl⟩
    next e v _ =>
      by_cases hs : stop hist ki v = true
      · rw [if_pos hs]
        exact ⟨List.nil_prefix, fun hnever => absurd hs (by simp [hnever])⟩
      · rw [if_neg hs]
        split
        · exact ih _ _ _
        · obtain ⟨hpre, heq⟩ := ih (blockSlots slots overlap (starts.getD e 0) e) (ki + 1) ((ki, v) :: hist)
          exact ⟨(List.prefix_cons_inj _).mpr hpre, fun hnever => congrArg _ (heq hnever)⟩

end Dtai
