/-
Proofs/DbaChain.lean — C12, the combined statement: one barycenter step does not increase the sum of
(squared) DTW distances from the average to the selected series.

First for any family of grids: replacing the grids does not increase the summed distance if the old
optimal alignments stay admissible and do not get dearer (`sum_dtwSpec_le_of_alignments`). Then for the grid
of (average `x`, series `s`) over the cost domain `WithTop K`, `K` a linearly ordered field: point cost
`(x i - s j)^2`, a penalty `p ≥ 0` per non-diagonal step, any window, no `max_step`, no psi.
-/
import Mathlib.Algebra.Order.Monoid.WithTop
import Dtaiverif.Proofs.Dist
import Dtaiverif.Proofs.Dba

namespace Dtai

section grid
variable {α : Type} [LinearOrderedAddCommMonoidWithTop α]

/-- **Descent by re-evaluating alignments.** Grids `g a` are replaced by grids `g' a`. If every `π a` is
optimal for `g a` and still an admissible complete path of `g' a`, and the paths together cost no more
on the new grids than on the old ones, then the summed distance does not increase:
`Σ dtw(g') ≤ Σ cost(g' | π) ≤ Σ cost(g | π) = Σ dtw(g)`. -/
theorem sum_dtwSpec_le_of_alignments {ι : Type} (L : List ι) (g g' : ι → Grid α) (π : ι → List Cell)
    (hv : ∀ a ∈ L, ∃ q rest, π a = q :: rest ∧ (g' a).ValidRev (π a) ∧ (g' a).EndOk q)
    (hopt : ∀ a ∈ L, (g a).costRev (π a) = dtwSpec (g a))
    (hcost : (L.map fun a => (g' a).costRev (π a)).sum ≤ (L.map fun a => (g a).costRev (π a)).sum) :
    (L.map fun a => dtwSpec (g' a)).sum ≤ (L.map fun a => dtwSpec (g a)).sum :=
  calc (L.map fun a => dtwSpec (g' a)).sum
      ≤ (L.map fun a => (g' a).costRev (π a)).sum := List.sum_le_sum fun a ha => by
        obtain ⟨q, rest, hπ, hv, he⟩ := hv a ha
        rw [hπ] at hv ⊢
        exact dtwSpec_le_path _ rest q hv he
    _ ≤ (L.map fun a => (g a).costRev (π a)).sum := hcost
    _ = (L.map fun a => dtwSpec (g a)).sum := congrArg List.sum (List.map_congr_left hopt)

end grid

variable {K : Type} [Field K] [LinearOrder K] [IsStrictOrderedRing K]

/-- the DTW grid between an average `x` (length `t`) and a series `s` (length `m`) -/
def dbaGrid (t m window : Nat) (p : K) (x s : Nat → K) : Grid (WithTop K) :=
  { r := t, c := m, window := window, pen := (p : WithTop K), maxStep := ⊤,
    psi1b := 0, psi1e := 0, psi2b := 0, psi2e := 0,
    cost := fun i j => (((x i - s j) ^ 2 : K) : WithTop K) }

theorem dbaGrid_nonneg (t m window : Nat) (p : K) (hp : 0 ≤ p) (x s : Nat → K) :
    (dbaGrid t m window p x s).NonNeg :=
  ⟨fun _ _ => WithTop.coe_nonneg.2 (sq_nonneg _), WithTop.coe_nonneg.2 hp⟩

/-- admissibility of a path does not depend on the values of the average -/
theorem dbaGrid_valid (t m window : Nat) (p : K) (x x' s : Nat → K) {path : List Cell}
    (h : (dbaGrid t m window p x s).ValidRev path) : (dbaGrid t m window p x' s).ValidRev path :=
  h.mono (fun _ hs => hs) fun i j hok => by rwa [Grid.ok_eq_inBand _ rfl] at hok ⊢

/-- one selected series together with the alignment used by the step -/
structure Aligned (K : Type) where
  m : Nat
  s : Nat → K
  path : List Cell       -- end cell first

/-- the association pairs (position of the average, aligned value) of all series -/
def assocPairs (L : List (Aligned K)) : List (Nat × K) :=
  L.flatMap fun a => a.path.map fun q => (q.1, a.s q.2)

theorem assocPairs_cons {K : Type} (a : Aligned K) (L : List (Aligned K)) :
    assocPairs (a :: L) = (a.path.map fun q => (q.1, a.s q.2)) ++ assocPairs L :=
  List.flatMap_cons

/-- cost of one alignment on the average `x`: the squared deviations of its association pairs plus
penalties that do not depend on `x` -/
theorem dbaGrid_costRev (t m window : Nat) (p : K) (x s : Nat → K) (path : List Cell) :
    (dbaGrid t m window p x s).costRev path =
      ((((path.map fun q => (q.1, s q.2)).map fun pr => (x pr.1 - pr.2) ^ 2).sum : K) : WithTop K) +
        penSum (p : WithTop K) path := by
  rw [Grid.costRev_eq, ← WithTop.coe_addHom, map_list_sum, List.map_map, List.map_map]
  rfl

theorem sum_costRev (t window : Nat) (p : K) (x : Nat → K) (L : List (Aligned K)) :
    (L.map fun a => (dbaGrid t a.m window p x a.s).costRev a.path).sum =
      ((((assocPairs L).map fun pr => (x pr.1 - pr.2) ^ 2).sum : K) : WithTop K) +
        (L.map fun a => penSum (p : WithTop K) a.path).sum := by
  induction L with
  | nil => simp [assocPairs]
  | cons a rest ih =>
    rw [List.map_cons, List.sum_cons, ih, dbaGrid_costRev, assocPairs_cons, List.map_append, List.sum_append,
      WithTop.coe_add, List.map_cons, List.sum_cons, add_add_add_comm]

/-- **One DBA step does not increase the fit.** `c` is the current average (length `t`), every selected
series comes with the alignment the step uses: an admissible complete path that is optimal for `c`
(C05: the traced path realises the recurrence). If the new average `c'` takes, at every position that
some point is aligned to, the mean of the aligned points, then
`Σ_k DTW²(c', s_k) ≤ Σ_k DTW²(c, s_k)` (squared distances = the internal representation; window and penalty arbitrary). -/
theorem dba_step_nonincreasing (t window : Nat) (p : K) (c c' : Nat → K) (L : List (Aligned K))
    (hvalid : ∀ a ∈ L, ∃ q rest, a.path = q :: rest ∧ (dbaGrid t a.m window p c a.s).ValidRev a.path ∧
      (dbaGrid t a.m window p c a.s).EndOk q ∧
      (dbaGrid t a.m window p c a.s).costRev a.path = dtwSpec (dbaGrid t a.m window p c a.s))
    (hmean : ∀ i, ((assocPairs L).filter fun pr => pr.1 == i) ≠ [] →
      c' i = mean (((assocPairs L).filter fun pr => pr.1 == i).map Prod.snd)) :
    (L.map fun a => dtwSpec (dbaGrid t a.m window p c' a.s)).sum ≤
      (L.map fun a => dtwSpec (dbaGrid t a.m window p c a.s)).sum :=
  sum_dtwSpec_le_of_alignments L (fun a => dbaGrid t a.m window p c a.s) (fun a => dbaGrid t a.m window p c' a.s)
    Aligned.path
    (fun a ha => let ⟨q, rest, hpath, hv, he, _⟩ := hvalid a ha; ⟨q, rest, hpath, dbaGrid_valid _ _ _ _ _ _ _ hv, he⟩)
    (fun a ha => let ⟨_, _, _, _, _, hopt⟩ := hvalid a ha; hopt)
    (by rw [sum_costRev, sum_costRev]
        exact add_le_add (WithTop.coe_le_coe.2 (dba_objective _ c c' hmean)) le_rfl)

end Dtai
