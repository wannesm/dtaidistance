/-
Proofs/Similarity.lean — `Model/Similarity.lean` at the real numbers, and the two shapes all its
transforms are built from. (`Real.exp`, `Real.log` and `Real.sqrt` come with the module of `x ^ y`.)
-/
import Mathlib.Analysis.SpecialFunctions.Pow.Real
import Dtaiverif.Model.Similarity

namespace Dtai

noncomputable instance : HasExp ℝ := ⟨Real.exp, Real.log, Real.sqrt, fun b x => b ^ x⟩

/-! ### the two shapes all transforms are built from: `u ↦ exp (-u / s)` and `u ↦ 1 / (r + u)`, both
non-increasing on `u ≥ 0` with their maximum at `u = 0` -/

theorem neg_div_anti {s u v : ℝ} (hs : 0 < s) (h : u ≤ v) : -v / s ≤ -u / s :=
  div_le_div_of_nonneg_right (neg_le_neg h) hs.le

theorem exp_neg_div_anti {s u v : ℝ} (hs : 0 < s) (h : u ≤ v) : Real.exp (-v / s) ≤ Real.exp (-u / s) :=
  Real.exp_le_exp.2 (neg_div_anti hs h)

theorem exp_neg_div_le_one {s u : ℝ} (hs : 0 < s) (hu : 0 ≤ u) : Real.exp (-u / s) ≤ 1 :=
  Real.exp_le_one_iff.2 (div_nonpos_of_nonpos_of_nonneg (neg_nonpos.2 hu) hs.le)

theorem one_div_add_anti {r u v : ℝ} (hr : 0 < r) (hu : 0 ≤ u) (h : u ≤ v) : 1 / (r + v) ≤ 1 / (r + u) :=
  one_div_le_one_div_of_le (add_pos_of_pos_of_nonneg hr hu) ((add_le_add_iff_left r).2 h)

theorem one_div_add_range {r u : ℝ} (hr : 0 < r) (hu : 0 ≤ u) : 0 ≤ 1 / (r + u) ∧ 1 / (r + u) ≤ 1 / r :=
  ⟨(one_div_pos.2 (add_pos_of_pos_of_nonneg hr hu)).le, one_div_le_one_div_of_le hr (le_add_of_nonneg_right hu)⟩

theorem one_div_one_add_range {u : ℝ} (hu : 0 ≤ u) : 0 ≤ 1 / (1 + u) ∧ 1 / (1 + u) ≤ 1 :=
  (one_div_add_range one_pos hu).imp_right (·.trans_eq one_div_one)

/-- the reverse transform maps `[0, r]` into `[0, 1]` -/
theorem simReverse_range {r d : ℝ} (hr : 0 < r) (h0 : 0 ≤ d) (h1 : d ≤ r) :
    0 ≤ simReverse r d ∧ simReverse r d ≤ 1 :=
  ⟨div_nonneg (sub_nonneg.2 h1) hr.le, (div_le_one hr).2 (sub_le_self r h0)⟩

/-- `y ↦ 1 - y` maps `[0, 1]` to itself -/
theorem one_sub_range {y : ℝ} (h : 0 ≤ y ∧ y ≤ 1) : 0 ≤ 1 - y ∧ 1 - y ≤ 1 :=
  ⟨sub_nonneg.2 h.2, sub_le_self 1 h.1⟩

/-! ### `listMax` is a maximum, `keepSign f` the odd extension of `x ↦ f x - f 0` -/

theorem listMax_ge (l : List ℝ) : ∀ x ∈ l, x ≤ listMax l := by
  cases l with
  | nil => simp
  | cons a rest =>
    -- `listMax (a :: rest)` is the fold of `max` over `rest` from `a`, which is `(a :: rest).max?`
    have h : listMax (a :: rest) = rest.foldl max a := by simp [listMax, ← max_def_lt]
    rw [h]
    exact (List.max?_le_iff (xs := a :: rest) rfl).1 le_rfl

theorem keepSign_of_nonneg (f : ℝ → ℝ) {x : ℝ} (hx : 0 ≤ x) : keepSign f x = f x - f 0 := by
  rcases hx.eq_or_lt with rfl | h
  · simp [keepSign]
  · simp [keepSign, h]

theorem keepSign_of_nonpos (f : ℝ → ℝ) {x : ℝ} (hx : x ≤ 0) : keepSign f x = -(f (-x) - f 0) := by
  rcases hx.eq_or_lt with rfl | h
  · simp [keepSign]
  · simp [keepSign, h, h.not_gt]

end Dtai
