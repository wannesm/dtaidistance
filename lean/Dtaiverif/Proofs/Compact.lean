/-
Proofs/Compact.lean — the compact warping-paths layout of the C engine.

`locColumns` never looks at how a `Parts` was computed, only at its fields, so the layout is proved right for
every `p : Parts` with `p.IsLayout l1 l2` (what the fields have to be); `wpsParts` is one such `p`.
Two numbers carry the geometry: the band of row `r` starts in column `r - p.ol`, and it reaches the last column
from row `p.or` on, where `p.ol + p.or = l1 + 1` (turn the matrix by 180° and the rows that start in column `0`
become the rows that end in column `l2`).  `locColumns_eq` gives the stored range and its place in the buffer
in closed form; that rows fit, that the range is the Python band, and that `wpsLoc` is injective are read off it.
-/
import Mathlib.Tactic.Common
import Dtaiverif.Model.Compact
import Dtaiverif.Model.Dtw

namespace Dtai

/-- effective window of the Python engine for a C-level window value (`0` = none) -/
def effWindow (l1 l2 window : Nat) : Nat := if window = 0 then max l1 l2 else window

/-- What `dtw_wps_parts` computes, field by field, for an `l1 × l2` matrix and the window `p.window`.
Rows `1 … ri1` are region A of `dtw_wps_loc_columns`, then B up to `ri2`, C up to `ri3`, D up to `l1`. -/
structure Parts.IsLayout (p : Parts) (l1 l2 : Nat) : Prop where
  ldiffr : p.ldiffr = l1 - l2
  ldiffc : p.ldiffc = l2 - l1
  ldiff : p.ldiff = p.ldiffr + p.ldiffc
  width : p.width = min (l2 + 1) (p.ldiff + 2 * p.window + 1)
  ol : p.ol = min (p.window + p.ldiffr) (l1 + 1)
  ol_add_or : p.ol + p.or = l1 + 1
  ri1 : p.ri1 = min l1 (min p.ol p.or)
  ri2 : p.ri2 = min l1 p.ol
  ri3 : p.ri3 = min l1 (max p.ol p.or)

/-- `dtw_wps_parts` clips the window at `max l1 l2` -/
theorem wpsParts_window (l1 l2 window : Nat) :
    (wpsParts l1 l2 window).window = min (effWindow l1 l2 window) (max l1 l2) := by
  simp only [wpsParts, effWindow]; split <;> omega

theorem wpsParts_isLayout (l1 l2 window : Nat) : (wpsParts l1 l2 window).IsLayout l1 l2 where
  ldiffr := by simp only [wpsParts]; split <;> omega
  ldiffc := by simp only [wpsParts]; split <;> omega
  ldiff := by simp only [wpsParts]; split_ifs <;> omega
  width := by
    -- without a window the band is the whole matrix, and `l2 + 1` is what the formula of the windowed case gives
    have hW := wpsParts_window l1 l2 window
    have : (wpsParts l1 l2 window).width = if window = 0 then l2 + 1 else
        min (l2 + 1) ((wpsParts l1 l2 window).ldiff + 2 * (wpsParts l1 l2 window).window + 1) := rfl
    rw [this]; split
    · rw [effWindow, if_pos ‹_›] at hW; omega
    · rfl
  ol := rfl
  ol_add_or := by
    have : (wpsParts l1 l2 window).or =
        if (wpsParts l1 l2 window).window + (wpsParts l1 l2 window).ldiffr ≤ l1
        then l1 + 1 - (wpsParts l1 l2 window).window - (wpsParts l1 l2 window).ldiffr else 0 := rfl
    have hol : (wpsParts l1 l2 window).ol =
        min ((wpsParts l1 l2 window).window + (wpsParts l1 l2 window).ldiffr) (l1 + 1) := rfl
    rw [this, hol]; split <;> omega
  ri1 := rfl
  ri2 := rfl
  ri3 := rfl

/-! ### `locColumns` in closed form -/

namespace Parts.IsLayout
variable {p : Parts} {l1 l2 r : Nat}

theorem l1_add_ldiffc (hp : p.IsLayout l1 l2) : l1 + p.ldiffc = l2 + p.ldiffr := by
  have := hp.ldiffr; have := hp.ldiffc; omega

/-- `ol` is the kink `window + ldiffr` of the band start, clipped where no row can tell -/
theorem sub_ol (hp : p.IsLayout l1 l2) (hr : r ≤ l1) : r - p.ol = r - (p.window + p.ldiffr) := by
  rw [hp.ol]; omega

/-- rows up to `or` end before or in the last column, rows from `or` on in it -/
theorem band_end (hp : p.IsLayout l1 l2) (hr1 : 1 ≤ r) :
    (r ≤ p.or → r + p.ldiffc + p.window ≤ l2 + 1) ∧ (p.or ≤ r → l2 + 1 ≤ r + p.ldiffc + p.window) := by
  -- by `l1_add_ldiffc`, `r + ldiffc + window` against `l2 + 1` is `r + (window + ldiffr)` against `l1 + 1 = ol + or`
  have := hp.l1_add_ldiffc; have := hp.ol; have := hp.ol_add_or
  constructor <;> omega

theorem le_ri1 (hp : p.IsLayout l1 l2) (hr : r ≤ l1) : r ≤ p.ri1 ↔ r ≤ p.ol ∧ r ≤ p.or := by
  rw [hp.ri1, Nat.le_min, Nat.le_min]; exact and_iff_right hr

theorem le_ri2 (hp : p.IsLayout l1 l2) (hr : r ≤ l1) : r ≤ p.ri2 ↔ r ≤ p.ol := by
  rw [hp.ri2, Nat.le_min]; exact and_iff_right hr

theorem le_ri3 (hp : p.IsLayout l1 l2) (hr : r ≤ l1) : r ≤ p.ri3 ↔ r ≤ max p.ol p.or := by
  rw [hp.ri3, Nat.le_min]; exact and_iff_right hr

/-! Once some row `r ≤ l1` lies beyond a kink, the `min` that clips it at `l1` (`ol`: at `l1 + 1`) is idle. -/

theorem ol_eq (hp : p.IsLayout l1 l2) (hr : r ≤ l1) (h : p.ol < r) : p.ol = p.window + p.ldiffr := by
  have := hp.ol; omega

theorem ri2_eq (hp : p.IsLayout l1 l2) (hr : r ≤ l1) (h : p.ol < r) : p.ri2 = p.ol := by
  rw [hp.ri2]; exact Nat.min_eq_right (by omega)

theorem ri3_eq (hp : p.IsLayout l1 l2) (hr : r ≤ l1) (h : max p.ol p.or < r) : p.ri3 = max p.ol p.or := by
  rw [hp.ri3]; exact Nat.min_eq_right (by omega)

/-- Row `r` stores the columns from `r - ol` up to where the band ends. It sits at the start of its buffer row
until both kinks `ol` and `or` are passed, and then moves right by one cell per row: past `ol` the range loses a
cell on the left in every row, and past `or` it gains none on the right. -/
theorem locColumns_eq (hp : p.IsLayout l1 l2) (hr1 : 1 ≤ r) (hr : r ≤ l1) :
    locColumns p l2 r =
      (r * p.width + (r - max p.ol p.or), r - p.ol, min (l2 + 1) (r + p.ldiffc + p.window)) := by
  obtain ⟨hlt, hge⟩ := hp.band_end hr1
  unfold locColumns
  split_ifs with hA hB hC hD <;> rw [Prod.mk.injEq, Prod.mk.injEq]
  · -- A: `r ≤ ol`, `r ≤ or`
    rw [hp.le_ri1 hr] at hA
    have := hlt hA.2
    exact ⟨by omega, by omega, by omega⟩
  · -- B: `or < r ≤ ol`
    rw [hp.le_ri1 hr] at hA; rw [hp.le_ri2 hr] at hB
    have := hge (by omega)
    exact ⟨by omega, by omega, by omega⟩
  · -- C: `ol < r ≤ or`
    rw [hp.le_ri2 hr] at hB; rw [hp.le_ri3 hr] at hC
    have hol := hp.ol_eq hr (by omega)
    have := hlt (by omega); have := hp.ldiff
    rw [hp.ri2_eq hr (by omega)]
    exact ⟨by omega, rfl, by omega⟩
  · -- D with `ri2 = ri3`, that is `or ≤ ol < r`: the first column, written `ri3 + 1 - window - ldiffr + (r - ri3 - 1)`
    -- in the source, is `r - ol` because `ri3 = ol = window + ldiffr`
    rw [hp.le_ri2 hr] at hB; rw [hp.le_ri3 hr] at hC
    have hol := hp.ol_eq hr (by omega)
    have h3 := hp.ri3_eq hr (by omega)
    have := hge (by omega)
    rw [← hD, hp.ri2_eq hr (by omega)] at h3 ⊢
    exact ⟨by omega, by omega, by omega⟩
  · -- D with `ol < or < r`
    rw [hp.le_ri2 hr] at hB; rw [hp.le_ri3 hr] at hC
    rw [hp.ri2_eq hr (by omega), hp.ri3_eq hr (by omega)]
    have := hge (by omega)
    exact ⟨rfl, rfl, by omega⟩

/-- when some row's band covers all columns (`or ≤ ol`), a buffer row is a whole matrix row -/
theorem width_eq (hp : p.IsLayout l1 l2) (h : p.or ≤ p.ol) : p.width = l2 + 1 := by
  -- `2 * (window + ldiffr) ≥ 2 * ol ≥ ol + or = l1 + 1`, and `l1 + ldiffc = l2 + ldiffr`
  have := hp.l1_add_ldiffc; have := hp.ol; have := hp.ol_add_or; have := hp.ldiff
  rw [hp.width]; exact Nat.min_eq_left (by omega)

/-- every stored cell of compact row `r` lies inside row `r` of a buffer of `width` columns -/
theorem in_row (hp : p.IsLayout l1 l2) (hr1 : 1 ≤ r) (hr : r ≤ l1) :
    let lc := locColumns p l2 r
    r * p.width ≤ lc.1 ∧ lc.2.1 ≤ min lc.2.2 (l2 + 1) ∧
      lc.1 + (min lc.2.2 (l2 + 1) - lc.2.1) ≤ r * p.width + p.width := by
  obtain ⟨hlt, hge⟩ := hp.band_end hr1
  rw [hp.locColumns_eq hr1 hr]
  dsimp only
  rw [Nat.min_eq_left (Nat.min_le_left ..), Nat.add_assoc (r * p.width)]
  have hol := hp.ol; have hdiff := hp.l1_add_ldiffc
  have hcb : r - p.ol ≤ min (l2 + 1) (r + p.ldiffc + p.window) := Nat.le_min.mpr ⟨by omega, by omega⟩
  refine ⟨Nat.le_add_right .., hcb, Nat.add_le_add_left ?_ _⟩
  rcases Nat.le_total p.or p.ol with h | h
  · -- the shift is the first stored column, so the last stored cell sits at offset `≤ l2`
    rw [Nat.max_eq_left h, hp.width_eq h, Nat.add_sub_cancel' hcb]
    exact Nat.min_le_left ..
  · rw [Nat.max_eq_right h]
    have := hp.ol_add_or; have := hp.width; have := hp.ldiff
    rcases Nat.le_total r p.or with h' | h'
    · -- not shifted, and at most `ol + ldiffc + window` cells
      rw [Nat.min_eq_right (hlt h')]; clear hcb hlt hge; omega
    · -- `l2 + 1 - (r - ol)` cells, shifted by `r - or`: the last one sits at offset `l2 - (or - ol)`
      rw [Nat.min_eq_left (hge h')]; clear hcb hlt hge; omega

/-- where a stored cell is: inside buffer row `r`, at its distance from the first stored column -/
theorem wpsLoc_eq_some {c i : Nat} (hp : p.IsLayout l1 l2) (hr : r ≤ l1) (h : wpsLoc p l2 r c = some i) :
    (r * p.width ≤ i ∧ i < r * p.width + p.width) ∧
    (r = 0 ∧ i = c ∨
      1 ≤ r ∧ (locColumns p l2 r).2.1 ≤ c ∧ i = (locColumns p l2 r).1 + (c - (locColumns p l2 r).2.1)) := by
  rcases Nat.eq_zero_or_pos r with rfl | hr1
  · rw [wpsLoc, if_pos rfl] at h
    split at h
    · obtain rfl := Option.some.inj h
      exact ⟨⟨by omega, by omega⟩, .inl ⟨rfl, rfl⟩⟩
    · cases h
  · have := hp.in_row hr1 hr
    rw [wpsLoc, if_neg (by omega)] at h
    dsimp only at h this
    split at h
    next hc =>
      obtain rfl := Option.some.inj h
      exact ⟨⟨by omega, by omega⟩, .inr ⟨hr1, hc.1, rfl⟩⟩
    next => cases h

/-- buffer rows are disjoint, and a row is stored contiguously -/
theorem wpsLoc_inj {r' c c' i : Nat} (hp : p.IsLayout l1 l2) (hr : r ≤ l1) (hr' : r' ≤ l1)
    (h : wpsLoc p l2 r c = some i) (h' : wpsLoc p l2 r' c' = some i) : r = r' ∧ c = c' := by
  obtain ⟨⟨hlo, hhi⟩, hc⟩ := hp.wpsLoc_eq_some hr h
  obtain ⟨⟨hlo', hhi'⟩, hc'⟩ := hp.wpsLoc_eq_some hr' h'
  rw [← Nat.succ_mul] at hhi hhi'
  obtain rfl : r = r' := (Nat.div_eq_of_lt_le hlo hhi).symm.trans (Nat.div_eq_of_lt_le hlo' hhi')
  exact ⟨rfl, by omega⟩

end Parts.IsLayout

/-- A window of `max r c` or more leaves every row `i < r` unconstrained, so clipping it there (as `dtw_wps_parts`
does and dtw.py does not) keeps the band. -/
theorem band_clip (i r c w : Nat) (hi : i < r) :
    i + 1 - (r - c) - min w (max r c) = i + 1 - (r - c) - w ∧
    min c (i + (c - r) + min w (max r c)) = min c (i + (c - r) + w) := by
  rcases Nat.le_total w (max r c) with h | h
  · rw [Nat.min_eq_left h]; exact ⟨rfl, rfl⟩
  · rw [Nat.min_eq_right h]
    have hr : r ≤ max r c := Nat.le_max_left ..
    have hc : c ≤ max r c := Nat.le_max_right ..
    generalize max r c = M at *
    exact ⟨by omega, by rw [Nat.min_eq_left (by omega), Nat.min_eq_left (by omega)]⟩

/-- The stored column range of compact row `r` is exactly "the cell left of the band, then the band
cells" of row `r-1` of the Python band (`j_start`, `j_end` of dtw.py): the C layout and the Python
band describe the same set of cells, for every `l1, l2, window`. -/
theorem locColumns_eq_band {α : Type} (g : Grid α) (window r : Nat) (h1 : 1 ≤ g.r) (h2 : 1 ≤ g.c)
    (hw : g.window = effWindow g.r g.c window) (hr1 : 1 ≤ r) (hr : r ≤ g.r) :
    (locColumns (wpsParts g.r g.c window) g.c r).2.1 = g.jStart (r - 1) ∧
    min (locColumns (wpsParts g.r g.c window) g.c r).2.2 (g.c + 1) = g.jEnd (r - 1) + 1 := by
  have hp := wpsParts_isLayout g.r g.c window
  obtain ⟨hs, he⟩ := band_clip (r - 1) g.r g.c g.window (by omega)
  rw [hp.locColumns_eq hr1 hr, Grid.jStart, Grid.jEnd, ← hs, ← he]
  dsimp only
  rw [hp.sub_ol hr, hp.ldiffr, hp.ldiffc, wpsParts_window, ← hw]
  generalize min g.window (max g.r g.c) = W
  constructor
  · omega
  · rw [Nat.min_eq_left (Nat.min_le_left ..), ← Nat.add_min_add_right]
    congr 1; omega

/-- distinct stored cells have distinct compact indices (rows occupy disjoint index ranges and a row
is stored contiguously) -/
theorem wpsLoc_inj (l1 l2 window r c r' c' i : Nat) (h1 : 1 ≤ l1) (h2 : 1 ≤ l2)
    (hr : r ≤ l1) (hr' : r' ≤ l1)
    (h : wpsLoc (wpsParts l1 l2 window) l2 r c = some i)
    (h' : wpsLoc (wpsParts l1 l2 window) l2 r' c' = some i) : r = r' ∧ c = c' :=
  (wpsParts_isLayout l1 l2 window).wpsLoc_inj hr hr' h h'

end Dtai
