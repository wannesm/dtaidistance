/-
Proofs/SubseqIter.lean — invariants of the k-best iterator (C13), by induction over reachable states.
-/
import Mathlib.Order.Basic
import Mathlib.Tactic.Common
import Dtaiverif.Model.SubseqIter

namespace Dtai

variable {α : Type}

theorem mbOf_le (overlap b e : Nat) : mbOf overlap b e ≤ e ∨ e < b := by
  unfold mbOf; split <;> omega

theorem mbOf_le_end (overlap b e : Nat) (hbe : b ≤ e) : mbOf overlap b e ≤ e :=
  (mbOf_le overlap b e).resolve_right (Nat.not_lt.mpr hbe)

/-- without overlap the blocked range of a segment of at least two samples starts right after its start -/
theorem mbOf_zero (b e : Nat) (hbe : b < e) : mbOf 0 b e = b + 1 := by
  simp [mbOf, Nat.not_le.mpr hbe]

/-! A step never puts a value into a slot, and what is blocked stays blocked. -/

section
variable {st : IterState α} {e j : Nat} {w : α}

theorem IterState.reject_val (h : (st.reject e).slots j = Slot.val w) : st.slots j = Slot.val w := by
  simp only [IterState.reject] at h
  split at h
  · cases h
  · exact h

theorem IterState.reject_blocked {v : α} (he : st.slots e = Slot.val v) (h : st.slots j = Slot.blocked) :
    (st.reject e).slots j = Slot.blocked := by
  have hje : j ≠ e := fun hje => by rw [hje, he] at h; cases h
  simp only [IterState.reject, if_neg hje, h]

theorem IterState.accept_val {overlap : Nat} {m : Match α} (h : (st.accept overlap m).slots j = Slot.val w) :
    st.slots j = Slot.val w := by
  simp only [IterState.accept] at h
  split at h
  · cases h
  · exact h

theorem IterState.accept_blocked {overlap : Nat} {m : Match α}
    (h : (mbOf overlap m.b m.e ≤ j ∧ j ≤ m.e) ∨ st.slots j = Slot.blocked) :
    (st.accept overlap m).slots j = Slot.blocked := by
  simp only [IterState.accept]
  split
  · rfl
  · exact h.resolve_left ‹_›

end

/-- two segments share at least two samples -/
def SharesTwo (m1 m2 : Match α) : Prop :=
  ∃ j, m1.b ≤ j ∧ j + 1 ≤ m1.e ∧ m2.b ≤ j ∧ j + 1 ≤ m2.e

variable [Preorder α]

structure IterInv (n overlap minlen : Nat) (maxlen : Option Nat) (st : IterState α) : Prop where
  /-- the range of every accepted match is blocked -/
  blocked : ∀ m ∈ st.yielded, ∀ j, mbOf overlap m.b m.e ≤ j → j ≤ m.e → st.slots j = Slot.blocked
  /-- segments are well formed and respect the length limits -/
  wf : ∀ m ∈ st.yielded, m.b ≤ m.e ∧ m.e < n ∧ minlen ≤ m.e - m.b + 1 ∧
        ∀ ml, maxlen = some ml → m.e - m.b + 1 ≤ ml
  /-- every remaining value is at least every yielded value -/
  lower : ∀ m ∈ st.yielded, ∀ j w, j < n → st.slots j = Slot.val w → m.v ≤ w
  /-- matches are yielded in non-decreasing value order (list is most recent first) -/
  sorted : st.yielded.Pairwise fun later earlier => earlier.v ≤ later.v
  /-- end points are pairwise distinct -/
  distinct : st.yielded.Pairwise fun m1 m2 => m1.e ≠ m2.e
  /-- without overlap two matches share at most a single (boundary) sample -/
  disjoint : overlap = 0 → st.yielded.Pairwise fun m1 m2 => ¬ SharesTwo m1 m2

theorem reach_inv (n overlap minlen : Nat) (maxlen : Option Nat) (startOf : Nat → Nat) (init : Nat → Slot α)
    (st : IterState α) (h : Reach n overlap minlen maxlen startOf init st) :
    IterInv n overlap minlen maxlen st := by
  induction h with
  | init =>
    exact { blocked := nofun, wf := nofun, lower := nofun,
            sorted := .nil, distinct := .nil, disjoint := fun _ => .nil }
  | reject st e v _ hval ih =>
    exact { ih with
      blocked := fun m hm j h1 h2 => IterState.reject_blocked hval (ih.blocked m hm j h1 h2)
      lower := fun m hm j w hj hw => ih.lower m hm j w hj (IterState.reject_val hw) }
  | accept st e v _ hen hval hmin hse hminl hmaxl hfree ih =>
    -- in every clause: the new match first, then the earlier ones
    exact {
      blocked := List.forall_mem_cons.mpr
        ⟨fun j h1 h2 => IterState.accept_blocked (.inl ⟨h1, h2⟩),
          fun m hm j h1 h2 => IterState.accept_blocked (.inr (ih.blocked m hm j h1 h2))⟩
      wf := List.forall_mem_cons.mpr ⟨⟨hse, hen, hminl, hmaxl⟩, ih.wf⟩
      lower := List.forall_mem_cons.mpr
        ⟨fun j w hj hw => hmin j w hj (IterState.accept_val hw),
          fun m hm j w hj hw => ih.lower m hm j w hj (IterState.accept_val hw)⟩
      sorted := List.pairwise_cons.mpr ⟨fun m hm => ih.lower m hm e v hen hval, ih.sorted⟩
      distinct := by
        -- an earlier end point is blocked, the new one holds a value
        refine List.pairwise_cons.mpr ⟨fun m hm heq => ?_, ih.distinct⟩
        have hb := ih.blocked m hm m.e (mbOf_le_end overlap m.b m.e (ih.wf m hm).1) (Nat.le_refl _)
        rw [← show e = m.e from heq, hval] at hb
        cases hb
      disjoint := fun h0 => by
        -- sample j+1 lies in the blocked range of the earlier match and in the range checked for the new one
        refine List.pairwise_cons.mpr ⟨fun m hm ⟨j, a1, a2, a3, a4⟩ => ?_, ih.disjoint h0⟩
        simp only at a1 a2
        subst h0
        refine hfree (j+1) ?_ (by omega) (ih.blocked m hm (j+1) ?_ (by omega))
        · rw [mbOf_zero _ _ (by omega)]; omega
        · rw [mbOf_zero _ _ (by omega)]; omega }

end Dtai
