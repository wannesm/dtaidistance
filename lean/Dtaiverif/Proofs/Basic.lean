/-
Proofs/Basic.lean — the cost domain of the proofs (any `LinearOrderedAddCommMonoidWithTop`) and the two
list operations of Model/Basic.lean the kernels are written with: `minList` and `getT`.
-/
import Mathlib.Algebra.Order.AddGroupWithTop
import Mathlib.Order.Lattice
import Mathlib.Data.List.Forall2
import Mathlib.Tactic.Common
import Dtaiverif.Model.Dtw

namespace Dtai

variable {α : Type} [LinearOrderedAddCommMonoidWithTop α]

instance (priority := 100) instHasTopOfTop : HasTop α := ⟨⊤⟩

@[simp] theorem top_eq : (top : α) = ⊤ := rfl

theorem add_ne_top {a b : α} (h : a + b ≠ ⊤) : a ≠ ⊤ ∧ b ≠ ⊤ :=
  ⟨fun ha => h (by rw [ha, top_add]), fun hb => h (by rw [hb, add_top])⟩

/-! ### `minList` -/

theorem minList_nil : minList ([] : List α) = ⊤ := rfl

theorem minList_cons (x : α) (xs : List α) : minList (x :: xs) = min x (minList xs) := by
  rw [minList, List.foldl_cons, min_comm, List.foldl_assoc]; rfl

theorem le_minList_iff {a : α} {l : List α} : a ≤ minList l ↔ ∀ x ∈ l, a ≤ x := by
  induction l with
  | nil => simp [minList_nil]
  | cons x xs ih => simp [minList_cons, ih]

theorem minList_le_mem (l : List α) (x : α) (hx : x ∈ l) : minList l ≤ x :=
  le_minList_iff.mp le_rfl x hx

theorem minList_append (l1 l2 : List α) : minList (l1 ++ l2) = min (minList l1) (minList l2) := by
  induction l1 with
  | nil => simp [minList_nil]
  | cons x xs ih => rw [List.cons_append, minList_cons, minList_cons, ih, min_assoc]

/-- the minimum is attained unless it is `⊤` -/
theorem minList_choice (l : List α) : minList l = ⊤ ∨ minList l ∈ l := by
  induction l with
  | nil => exact Or.inl rfl
  | cons x xs ih =>
    rw [minList_cons]
    rcases min_choice x (minList xs) with h | h
    · rw [h]; exact Or.inr List.mem_cons_self
    · rw [h]; exact ih.imp_right (List.mem_cons_of_mem _)

/-! ### reading a row: `getD`, `getT` -/

theorem getD_map_range {β : Type} (f : Nat → β) {n I : Nat} (h : I < n) (d : β) :
    ((List.range n).map f).getD I d = f I := by
  simp [h]

theorem getT_map_range (f : Nat → α) {n J : Nat} (h : J < n) : getT ((List.range n).map f) J = f J :=
  getD_map_range f h _

/-- a row related to its column indices by `Forall₂`, read cell by cell -/
theorem forall₂_range_getD {β : Type} {R : Nat → β → Prop} {n : Nat} {l : List β}
    (h : List.Forall₂ R (List.range n) l) {J : Nat} (hJ : J < n) (d : β) : R J (l.getD J d) := by
  obtain ⟨hlen, hget⟩ := List.forall₂_iff_get.mp h
  rw [List.length_range] at hlen
  have := hget J (by rwa [List.length_range]) (hlen ▸ hJ)
  rwa [List.get_eq_getElem, List.getElem_range, List.get_eq_getElem, List.getElem_eq_getD d] at this

end Dtai
