/-
Proofs/Subseq.lean — C13: with free start (and end) columns the last row of the accumulated-cost matrix
is, at end position `e`, the minimum over all start positions `b ≤ e` of the plain DTW cost between the
query and `series[b..e]`.
-/
import Dtaiverif.Proofs.Path

namespace Dtai

variable {α : Type} [LinearOrderedAddCommMonoidWithTop α]

/-- the plain (no relaxation) sub-problem "query vs series[b..e]" -/
def subGrid (g : Grid α) (b e : Nat) : Grid α :=
  { r := g.r, c := e + 1 - b, window := g.r + g.c + 1, pen := g.pen, maxStep := g.maxStep,
    psi1b := 0, psi1e := 0, psi2b := 0, psi2e := 0, cost := fun i j => g.cost i (j + b) }

/-- the alignment grid: every pair `(i, j)` with `i < r`, `j < c` is admissible (no window, no max_step) -/
structure Grid.Full (g : Grid α) : Prop where
  ok : ∀ i j, i < g.r → j < g.c → g.ok i j = true

theorem subGrid_ok (g : Grid α) (hf : g.Full) (b e i j : Nat) (he : e < g.c) (hi : i < g.r)
    (hj : j + b ≤ e) : (subGrid g b e).ok i j = true := by
  refine (ok_iff _ i j).mpr ⟨?_, ((ok_iff g i (j + b)).mp (hf.ok i (j + b) hi (by omega))).2⟩
  rw [inBand_iff]
  simp only [subGrid]
  omega

def shiftUp (b : Nat) (p : Cell) : Cell := (p.1, p.2 + b)
def shiftDown (b : Nat) (p : Cell) : Cell := (p.1, p.2 - b)

theorem isStep_shiftUp (b : Nat) (p q : Cell) (h : IsStep p q) : IsStep (shiftUp b p) (shiftUp b q) := by
  rw [isStep_iff] at *; simp only [shiftUp]; omega

theorem isStep_shiftDown (b : Nat) (p q : Cell) (h : IsStep p q) (hp : b ≤ p.2) :
    IsStep (shiftDown b p) (shiftDown b q) := by
  rw [isStep_iff] at *; simp only [shiftDown]; omega

/-- a path of the sub-problem, shifted by `b` columns, is an admissible path of the alignment grid that
starts in `(0, b)`, with the same cost -/
theorem shiftUp_valid (g : Grid α) (hf : g.Full) (b e : Nat) (he : e < g.c) (hb : b ≤ g.psi2b)
    (path : List Cell) (q : Cell) (hq1 : q.1 < g.r) (hq2 : q.2 + b ≤ e)
    (hv : (subGrid g b e).ValidRev (q :: path)) :
    g.ValidRev ((q :: path).map (shiftUp b)) ∧
    g.costRev ((q :: path).map (shiftUp b)) = (subGrid g b e).costRev (q :: path) := by
  have hS : ∀ p ∈ q :: path, p.1 < g.r ∧ p.2 + b ≤ e := fun p hp => by
    have := validRev_rows _ path q hv p hp; omega
  constructor
  · refine hv.map (fun p q _ _ => isStep_shiftUp b p q) (fun p hp _ => hf.ok _ _ hp.1 (hp.2.trans_lt he)) hS
      fun s _ hs => ?_
    -- the sub-problem has no relaxation: its paths start in `(0, 0)`
    have : s.1 = 0 ∧ s.2 = 0 := by simp only [Grid.StartOk, subGrid] at hs; omega
    exact Or.inl ⟨this.1, by simp only [shiftUp, this.2]; omega⟩
  · exact costRev_map (fun _ _ => rfl) (fun p q _ _ => stepPen_congr rfl (by simp only [shiftUp]; omega)) hS

/-- conversely, an admissible path of the alignment grid is, shifted back by the column `b` it starts in,
an admissible path of the sub-problem with the same cost -/
theorem shiftDown_valid (g : Grid α) (hf : g.Full) (hpsi : g.psi1b = 0) (e : Nat) (he : e < g.c)
    (path : List Cell) (q : Cell) (hq1 : q.1 < g.r) (hq2 : q.2 ≤ e) (hv : g.ValidRev (q :: path)) :
    ∃ b, b ≤ g.psi2b ∧ b ≤ q.2 ∧
      (subGrid g b e).ValidRev ((q :: path).map (shiftDown b)) ∧
      (subGrid g b e).costRev ((q :: path).map (shiftDown b)) = g.costRev (q :: path) := by
  obtain ⟨s, hlast, hs, hle⟩ := validRev_start g path q hv
  have hs0 : s.1 = 0 ∧ s.2 ≤ g.psi2b := by unfold Grid.StartOk at hs; omega
  have hS : ∀ p ∈ q :: path, p.1 < g.r ∧ s.2 ≤ p.2 ∧ p.2 ≤ e := fun p hp => by
    have := validRev_rows g path q hv p hp; have := hle p hp; omega
  refine ⟨s.2, hs0.2, (hS q List.mem_cons_self).2.1, ?_, ?_⟩
  · refine hv.map (fun p q hp _ h => isStep_shiftDown _ p q h hp.2.1)
      (fun p hp _ => subGrid_ok g hf s.2 e _ _ he hp.1 ((Nat.sub_add_cancel hp.2.1).le.trans hp.2.2)) hS
      fun s' hs' _ => ?_
    obtain rfl : s = s' := Option.some.inj (hlast.symm.trans hs')
    exact Or.inl ⟨hs0.1, (Nat.sub_self _).le⟩
  · exact costRev_map (fun p hp => congrArg (g.cost p.1) (Nat.sub_add_cancel hp.2.1))
      (fun p q hp hq => stepPen_congr rfl (by simp only [shiftDown]; omega)) hS

/-- **Matching function.** In the alignment grid (free start column, `psi_2b ≥ e`) the cell in the
last query row at end position `e` holds the minimum, over all start positions `b ≤ e`, of the plain DTW
cost between the query and `series[b..e]`. -/
theorem matching_eq_min_over_starts (g : Grid α) (h : g.NonNeg) (hf : g.Full) (hpsi : g.psi1b = 0)
    (i e : Nat) (hi : i < g.r) (he : e < g.c) (hfree : e ≤ g.psi2b) :
    D g (i+1) (e+1) = minList ((List.range (e+1)).map fun b => D (subGrid g b e) (i+1) (e - b + 1)) := by
  have hsubNN : ∀ b, (subGrid g b e).NonNeg := fun b => ⟨fun i j => h.cost i (j + b), h.pen⟩
  apply le_antisymm
  · -- `D g` is below every sub-problem value: shift its optimal path up
    simp only [le_minList_iff, List.forall_mem_map, List.mem_range]
    intro b hb
    have hbe : b ≤ e := by omega
    rcases D_attained (subGrid g b e) (hsubNN b) _ i (e - b) rfl with ht | ⟨path, hv, hc⟩
    · rw [ht]; exact le_top
    · obtain ⟨hv', hc'⟩ := shiftUp_valid g hf b e he (by omega) path (i, e - b) hi (by simp; omega) hv
      have := D_le_costRev g (path.map (shiftUp b)) (shiftUp b (i, e - b)) hv'
      rw [← hc, ← hc']
      simpa [shiftUp, Nat.sub_add_cancel hbe] using this
  · -- some sub-problem is at most `D g`: shift the optimal path of `g` down to its start column
    rcases D_attained g h _ i e rfl with ht | ⟨path, hv, hc⟩
    · rw [ht]; exact le_top
    · obtain ⟨b, hb1, hb2, hv', hc'⟩ := shiftDown_valid g hf hpsi e he path (i, e) hi le_rfl hv
      simp only at hb2
      have hle := D_le_costRev (subGrid g b e) (path.map (shiftDown b)) (shiftDown b (i, e)) hv'
      refine le_trans (minList_le_mem _ _ (List.mem_map.mpr ⟨b, List.mem_range.mpr (by omega), rfl⟩)) ?_
      rw [← hc, ← hc']
      simpa [shiftDown] using hle

end Dtai
