/-
Proofs/Hier.lean — invariants of hierarchical clustering over all reachable states (any tie-breaking by
`order_hook`, any swap decided by `merge_hook`): `HInv` for the state, `TInv` for the tree recorded along its
merges, both carried by one induction (`HReach.inv`); how many prototypes can be deleted; and the hook-free choice
`firstMinPair` as the library's `List.minOn?`.
-/
import Dtaiverif.Proofs.GridDP
import Dtaiverif.Proofs.Lists
import Dtaiverif.Model.Hier

namespace Dtai

variable {α : Type} [LinearOrderedAddCommMonoidWithTop α]

/-- reachable states of `Hierarchical.fit` -/
inductive HReach (n : Nat) (maxDist : α) (d0 : Nat → Nat → α) : HState α → Prop
  | init : HReach n maxDist d0 (hierInit n d0)
  | step (st : HState α) (r c : Nat) (swap : Bool) :
      HReach n maxDist d0 st → r < c → c < n →
      st.dist r c ≤ maxDist → st.dist r c ≠ ⊤ →
      (∀ r' c', st.dist r c ≤ st.dist r' c') →
      HReach n maxDist d0 (if swap then st.merge c r (st.dist r c) else st.merge r c (st.dist r c))

structure HInv (n : Nat) (maxDist : α) (d0 : Nat → Nat → α) (st : HState α) : Prop where
  size : st.n = n
  repIdem : ∀ x, st.rep (st.rep x) = st.rep x
  repLt : ∀ x, x < n → st.rep x < n
  delIff : ∀ x, x ∈ st.deleted ↔ st.rep x ≠ x
  blanked : ∀ r c, (r ∈ st.deleted ∨ c ∈ st.deleted) → st.dist r c = ⊤
  kept : ∀ r c, r ∉ st.deleted → c ∉ st.deleted → st.dist r c = (hierInit n d0).dist r c
  bounded : ∀ m ∈ st.merges, m.2.2 ≤ maxDist
  sorted : st.merges.Pairwise fun later earlier => earlier.2.2 ≤ later.2.2
  above : ∀ m ∈ st.merges, ∀ r c, m.2.2 ≤ st.dist r c
  count : st.deleted.length = st.merges.length
  nodup : st.deleted.Nodup
  mergedDeleted : ∀ m ∈ st.merges, m.2.1 ∈ st.deleted
  delLt : ∀ x ∈ st.deleted, x < n

section
variable (st : HState α) (i1 i2 : Nat) (d : α)

@[simp] theorem HState.merge_dist (r c : Nat) :
    (st.merge i1 i2 d).dist r c = if r = i2 ∨ c = i2 then ⊤ else st.dist r c := rfl
@[simp] theorem HState.merge_rep (x : Nat) :
    (st.merge i1 i2 d).rep x = if st.rep x = i2 then i1 else st.rep x := rfl
@[simp] theorem HState.merge_deleted : (st.merge i1 i2 d).deleted = i2 :: st.deleted := rfl
@[simp] theorem HState.merge_merges : (st.merge i1 i2 d).merges = (i1, i2, d) :: st.merges := rfl

end

variable {n : Nat} {maxDist : α} {d0 : Nat → Nat → α} {st : HState α}

theorem HInv.rep_of_not_mem (hi : HInv n maxDist d0 st) {x : Nat} (hx : x ∉ st.deleted) : st.rep x = x :=
  not_not.mp (mt (hi.delIff x).mpr hx)

/-- an entry that is not `⊤` lies between live prototypes -/
theorem HInv.live_of_ne_top (hi : HInv n maxDist d0 st) {r c : Nat} (h : st.dist r c ≠ ⊤) :
    r ∉ st.deleted ∧ c ∉ st.deleted :=
  ⟨fun hr => h (hi.blanked r c (Or.inl hr)), fun hc => h (hi.blanked r c (Or.inr hc))⟩

/-- outside the live upper triangle every entry is `⊤` -/
theorem HInv.dist_top_outside (hi : HInv n maxDist d0 st) (r c : Nat) (h : ¬ (r < c ∧ c < n)) :
    st.dist r c = ⊤ := by
  by_contra hne
  obtain ⟨hr, hc⟩ := hi.live_of_ne_top hne
  rw [hi.kept r c hr hc] at hne
  simp [hierInit, h] at hne

/-- merging the live prototype `i2` into the live prototype `i1` at a distance `d` that is minimal and
attained in the working matrix -/
theorem merge_inv (hi : HInv n maxDist d0 st) {i1 i2 : Nat} (h1 : i1 < n) (h2 : i2 < n) (hne : i1 ≠ i2)
    (hd1 : i1 ∉ st.deleted) (hd2 : i2 ∉ st.deleted) {d : α} (hd : d ≤ maxDist)
    (hmin : ∀ r c, d ≤ st.dist r c) (hatt : ∃ r c, d = st.dist r c) :
    HInv n maxDist d0 (st.merge i1 i2 d) where
  size := hi.size
  repIdem x := by
    by_cases hx : st.rep x = i2 <;> simp [hx, hi.rep_of_not_mem hd1, hne, hi.repIdem x]
  repLt x hx := by
    rw [HState.merge_rep]; split
    · exact h1
    · exact hi.repLt x hx
  delIff x := by
    simp only [HState.merge_deleted, HState.merge_rep, List.mem_cons, hi.delIff]
    by_cases h : st.rep x = i2
    · have : i1 ≠ x := by rintro rfl; exact hne ((hi.rep_of_not_mem hd1).symm.trans h)
      simp [h, this, eq_comm, em]
    · have : x ≠ i2 := by rintro rfl; exact h (hi.rep_of_not_mem hd2)
      simp [h, this]
  blanked r c hrc := by
    rw [HState.merge_dist]; split
    · rfl
    · rename_i h
      simp only [HState.merge_deleted, List.mem_cons] at hrc
      exact hi.blanked r c (hrc.imp (·.resolve_left (h ∘ Or.inl)) (·.resolve_left (h ∘ Or.inr)))
  kept r c hr hc := by
    simp only [HState.merge_deleted, List.mem_cons, not_or] at hr hc
    simp only [HState.merge_dist, hr.1, hc.1, or_self, if_false]
    exact hi.kept r c hr.2 hc.2
  bounded := List.forall_mem_cons.mpr ⟨hd, hi.bounded⟩
  sorted := by
    obtain ⟨r, c, rfl⟩ := hatt
    exact List.Pairwise.cons (fun m hm => hi.above m hm r c) hi.sorted
  above m hm r c := by
    rw [HState.merge_dist]; split
    · exact le_top
    · rcases List.mem_cons.mp hm with rfl | hm
      · exact hmin r c
      · exact hi.above m hm r c
  count := congrArg (· + 1) hi.count
  nodup := List.nodup_cons.mpr ⟨hd2, hi.nodup⟩
  mergedDeleted :=
    List.forall_mem_cons.mpr ⟨List.mem_cons_self, fun m hm => List.mem_cons_of_mem _ (hi.mergedDeleted m hm)⟩
  delLt := List.forall_mem_cons.mpr ⟨h2, hi.delLt⟩

theorem init_inv (n : Nat) (maxDist : α) (d0 : Nat → Nat → α) : HInv n maxDist d0 (hierInit n d0) where
  size := rfl
  repIdem _ := rfl
  repLt _ h := h
  delIff x := by simp [hierInit]
  blanked _ _ h := by simp [hierInit] at h
  kept _ _ _ _ := rfl
  bounded _ h := nomatch h
  sorted := List.Pairwise.nil
  above _ h := nomatch h
  count := rfl
  nodup := List.nodup_nil
  mergedDeleted _ h := nomatch h
  delLt _ h := nomatch h

/-! ### the recorded tree -/

def children (l : List (Nat × Nat)) : List Nat := l.flatMap fun p => [p.1, p.2]

theorem children_cons (p : Nat × Nat) (l : List (Nat × Nat)) : children (p :: l) = p.1 :: p.2 :: children l := rfl

theorem children_length (l : List (Nat × Nat)) : (children l).length = 2 * l.length := by
  induction l with
  | nil => rfl
  | cons p l ih => rw [children_cons, List.length_cons, List.length_cons, List.length_cons, ih]; omega

/-- every linkage row refers only to leaves and to nodes created by earlier rows -/
def WellOrdered (n : Nat) : List (Nat × Nat) → Prop
  | [] => True
  | p :: rest => p.1 < n + rest.length ∧ p.2 < n + rest.length ∧ WellOrdered n rest

structure TInv (n : Nat) (st : HState α) (t : TState) : Prop where
  len : t.linkage.length = st.merges.length
  live : ∀ x, x < n → x ∉ st.deleted → ∃ a, t.nodeOf x = some a
  someSpec : ∀ x a, t.nodeOf x = some a →
      a < n + t.linkage.length ∧ a ∉ children t.linkage ∧ x < n ∧ x ∉ st.deleted
  inj : ∀ x y a, t.nodeOf x = some a → t.nodeOf y = some a → x = y
  nodup : (children t.linkage).Nodup
  childLt : ∀ c ∈ children t.linkage, c + 1 < n + t.linkage.length
  ordered : WellOrdered n t.linkage

theorem tree_init_inv (n : Nat) (d0 : Nat → Nat → α) : TInv n (hierInit n d0) (treeInit n) := by
  have hnode : ∀ x a, (treeInit n).nodeOf x = some a → x < n ∧ x = a := fun x a h => by
    simpa [treeInit] using h
  exact {
    len := rfl
    live := fun x hx _ => ⟨x, if_pos hx⟩
    someSpec := fun x a h => by
      obtain ⟨hx, rfl⟩ := hnode x a h
      exact ⟨hx, List.not_mem_nil, hx, List.not_mem_nil⟩
    inj := fun x y a hx hy => (hnode x a hx).2.trans (hnode y a hy).2.symm
    nodup := List.nodup_nil
    childLt := fun _ h => nomatch h
    ordered := trivial }

/-- the nodes after a step: `i2` has none, `i1` has the new one, the others keep theirs -/
theorem treeStep_nodeOf_eq_some (n : Nat) (t : TState) (i1 i2 x c : Nat) :
    (treeStep n t i1 i2).nodeOf x = some c ↔
      x ≠ i2 ∧ (x = i1 ∧ c = n + t.linkage.length ∨ x ≠ i1 ∧ t.nodeOf x = some c) := by
  simp only [treeStep]
  split_ifs with h2 h1
  · simp [h2]
  · simp [h2, eq_true h1, eq_comm]
  · simp [h2, h1]

theorem tree_merge_inv {t : TState} (ht : TInv n st t) {i1 i2 : Nat} (h1 : i1 < n) (h2 : i2 < n)
    (hne : i1 ≠ i2) (hd1 : i1 ∉ st.deleted) (hd2 : i2 ∉ st.deleted) (d : α) :
    TInv n (st.merge i1 i2 d) (treeStep n t i1 i2) := by
  obtain ⟨a, ha⟩ := ht.live i1 h1 hd1
  obtain ⟨b, hb⟩ := ht.live i2 h2 hd2
  have hab : a ≠ b := fun h => hne (ht.inj i1 i2 a ha (h ▸ hb))
  obtain ⟨ha1, ha2, _, _⟩ := ht.someSpec i1 a ha
  obtain ⟨hb1, hb2, _, _⟩ := ht.someSpec i2 b hb
  have hlink : (treeStep n t i1 i2).linkage = (b, a) :: t.linkage := by simp [treeStep, ha, hb]
  exact {
    len := by rw [hlink, List.length_cons, ht.len]; rfl
    live := fun x hx hdel => by
      rw [HState.merge_deleted, List.mem_cons, not_or] at hdel
      by_cases hx1 : x = i1
      · exact ⟨_, (treeStep_nodeOf_eq_some ..).mpr ⟨hdel.1, Or.inl ⟨hx1, rfl⟩⟩⟩
      · obtain ⟨c, hc⟩ := ht.live x hx hdel.2
        exact ⟨c, (treeStep_nodeOf_eq_some ..).mpr ⟨hdel.1, Or.inr ⟨hx1, hc⟩⟩⟩
    someSpec := fun x c hc => by
      rw [hlink, children_cons]
      simp only [List.length_cons, List.mem_cons, HState.merge_deleted, not_or]
      obtain ⟨hx2, ⟨rfl, rfl⟩ | ⟨hx1, hc⟩⟩ := (treeStep_nodeOf_eq_some ..).mp hc
      · -- the new node is above every old node and child
        refine ⟨by omega, ⟨by omega, by omega, fun hmem => ?_⟩, h1, hx2, hd1⟩
        have := ht.childLt _ hmem
        omega
      · -- an old node of a prototype other than `i1`, `i2` is neither `a` nor `b`
        obtain ⟨hc1, hc2, hc3, hc4⟩ := ht.someSpec x c hc
        exact ⟨by omega, ⟨fun h => hx2 (ht.inj x i2 b (h ▸ hc) hb), fun h => hx1 (ht.inj x i1 a (h ▸ hc) ha), hc2⟩,
          hc3, hx2, hc4⟩
    inj := fun x y c hx hy => by
      rw [treeStep_nodeOf_eq_some] at hx hy
      rcases hx.2 with ⟨hx1, hxc⟩ | ⟨_, hx'⟩ <;> rcases hy.2 with ⟨hy1, hyc⟩ | ⟨_, hy'⟩
      · rw [hx1, hy1]
      · have := (ht.someSpec y _ hy').1; omega
      · have := (ht.someSpec x _ hx').1; omega
      · exact ht.inj x y c hx' hy'
    nodup := by
      rw [hlink, children_cons]
      simp only [List.nodup_cons, List.mem_cons, not_or]
      exact ⟨⟨hab.symm, hb2⟩, ha2, ht.nodup⟩
    childLt := by
      simp only [hlink, children_cons, List.length_cons, List.forall_mem_cons]
      exact ⟨by omega, by omega, fun c hc => Nat.lt_succ_of_lt (ht.childLt c hc)⟩
    ordered := hlink ▸ ⟨hb1, ha1, ht.ordered⟩ }

/-- Every reachable state satisfies the invariant, and the tree recorded along its merges the tree
invariant. Whichever way the hook swaps, the step merges two distinct live prototypes below `n`. -/
theorem HReach.inv (h : HReach n maxDist d0 st) : HInv n maxDist d0 st ∧ TInv n st (treeOf n st.merges) := by
  induction h with
  | init => exact ⟨init_inv n maxDist d0, tree_init_inv n d0⟩
  | step st r c swap _ hrc hcn hle hfin hmin ih =>
    obtain ⟨hi, ht⟩ := ih
    obtain ⟨hr, hc⟩ := hi.live_of_ne_top hfin
    have key := fun i1 i2 h1 h2 hne hd1 hd2 => And.intro
      (merge_inv hi (i1 := i1) (i2 := i2) h1 h2 hne hd1 hd2 hle hmin ⟨r, c, rfl⟩)
      (tree_merge_inv ht h1 h2 hne hd1 hd2 (st.dist r c))
    cases swap
    · exact key r c (by omega) hcn (by omega) hr hc
    · exact key c r hcn (by omega) (by omega) hc hr

theorem reach_hinv (h : HReach n maxDist d0 st) : HInv n maxDist d0 st := h.inv.1

theorem reach_tinv (h : HReach n maxDist d0 st) : TInv n st (treeOf n st.merges) := h.inv.2

/-! ### counting live prototypes -/

/-- the prototype of series `0` is live: at most `n - 1` prototypes are deleted -/
theorem HInv.deleted_length_lt (hi : HInv n maxDist d0 st) (hn : 1 ≤ n) : st.deleted.length + 1 ≤ n := by
  have hlive : st.rep 0 ∉ st.deleted := fun h => (hi.delIff _).mp h (hi.repIdem 0)
  have := (subperm_range (List.nodup_cons.mpr ⟨hlive, hi.nodup⟩)
    (List.forall_mem_cons.mpr ⟨hi.repLt 0 hn, hi.delLt⟩)).length_le
  simpa using this

/-- while fewer than `n - 1` prototypes are deleted, two live ones are left -/
theorem HInv.exists_live_pair (hi : HInv n maxDist d0 st) (h : st.deleted.length + 2 ≤ n) :
    ∃ r c, r < c ∧ c < n ∧ r ∉ st.deleted ∧ c ∉ st.deleted :=
  exists_two_not_mem hi.nodup hi.delLt h

/-! ### the hook-free choice: first minimal entry in row-major order -/

theorem mem_upperPairs (n r c : Nat) : (r, c) ∈ upperPairs n ↔ r < c ∧ c < n := by
  simp only [upperPairs, List.mem_flatMap, List.mem_range, List.mem_map, List.mem_range'_1, Prod.mk.injEq]
  constructor
  · rintro ⟨a, ha, b, hb, rfl, rfl⟩; omega
  · intro h; exact ⟨r, by omega, c, by omega, rfl, rfl⟩

/-- the scan of `firstMinPair` is `List.minOn?` of the standard library -/
theorem firstMinPair_eq (n : Nat) (dist : Nat → Nat → α) :
    firstMinPair n dist = (upperPairs n).minOn? fun p => dist p.1 p.2 := by
  unfold firstMinPair
  cases upperPairs n with
  | nil => rfl
  | cons p ps =>
    show List.foldl _ (some p) ps = some (List.foldl (minOn _) p ps)
    induction ps generalizing p with
    | nil => rfl
    | cons q qs ih =>
      by_cases h : dist p.1 p.2 ≤ dist q.1 q.2 <;> simp only [List.foldl_cons, h, ih, minOn, if_true, if_false]

theorem firstMinPair_some (n : Nat) (dist : Nat → Nat → α) (r c : Nat) (h : firstMinPair n dist = some (r, c)) :
    r < c ∧ c < n ∧ ∀ r' c', r' < c' → c' < n → dist r c ≤ dist r' c' := by
  rw [firstMinPair_eq] at h
  obtain ⟨h1, h2⟩ := (mem_upperPairs n r c).mp (List.minOn?_mem h)
  refine ⟨h1, h2, fun r' c' h1' h2' => ?_⟩
  have := List.apply_minOn_le_of_mem (f := fun p : Nat × Nat => dist p.1 p.2)
    ((mem_upperPairs n r' c').mpr ⟨h1', h2'⟩)
  rwa [List.minOn_eq_of_minOn?_eq_some h] at this

theorem firstMinPair_none (n : Nat) (dist : Nat → Nat → α) (h : firstMinPair n dist = none) :
    ∀ r c, r < c → c < n → False := by
  intro r c h1 h2
  rw [firstMinPair_eq] at h
  have := List.isSome_minOn?_of_mem (f := fun p : Nat × Nat => dist p.1 p.2) ((mem_upperPairs n r c).mpr ⟨h1, h2⟩)
  simp [h] at this

/-- on a state satisfying the invariant the entry found is minimal in the whole working matrix -/
theorem HInv.firstMinPair_min (hi : HInv n maxDist d0 st) {r c : Nat}
    (h : firstMinPair st.n st.dist = some (r, c)) : r < c ∧ c < n ∧ ∀ r' c', st.dist r c ≤ st.dist r' c' := by
  obtain ⟨hrc, hcn, hmin⟩ := firstMinPair_some n st.dist r c (hi.size ▸ h)
  refine ⟨hrc, hcn, fun r' c' => ?_⟩
  by_cases hin : r' < c' ∧ c' < n
  · exact hmin r' c' hin.1 hin.2
  · rw [hi.dist_top_outside r' c' hin]; exact le_top

end Dtai
