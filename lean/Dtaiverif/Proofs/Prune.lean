/-
Proofs/Prune.lean — soundness of the early-abandoning bookkeeping (`sc`, `ec`, `smaller_found`,
`ec_next`, `break`) of `dtw.distance` / `dtw.warping_paths` / the C kernels.

Main result `matP_rel`: every cell of the pruned matrix over-estimates the recurrence `D` and is
*equal* to it whenever `D ≤ m` (the threshold).  The relation `Rel m` between true and computed value
is preserved by every operation of the recurrence (`Rel.min`, `Rel.add_right`, `Rel.add_left`); a cell
the kernel skips is one whose true value is related to `⊤` (`Dead`).
-/
import Dtaiverif.Proofs.GridDP

namespace Dtai

variable {α : Type} [LinearOrderedAddCommMonoidWithTop α]

/-- `p` over-estimates `d` and is exact when `d ≤ m` -/
structure Rel (m d p : α) : Prop where
  le : d ≤ p
  eq : d ≤ m → p = d

/-- a value that can never be (part of) a result `≤ m`: the kernel may leave `⊤` in its place -/
abbrev Dead (m x : α) : Prop := Rel m x ⊤

theorem Rel.refl (m d : α) : Rel m d d := ⟨le_rfl, fun _ => rfl⟩

theorem dead_top (m : α) : Dead m (⊤ : α) := Rel.refl m ⊤

theorem Rel.not_le {m d p : α} (h : Rel m d p) (hp : ¬ p ≤ m) : ¬ d ≤ m :=
  fun hd => hp (h.eq hd ▸ hd)

theorem dead_of_not_le {m x : α} (h : ¬ x ≤ m) : Dead m x := ⟨le_top, fun hx => absurd hx h⟩

theorem dead_of_eq_top {m x : α} (h : x = ⊤) : Dead m x := h ▸ dead_top m

/-! ### the operations of the recurrence preserve `Rel` -/

theorem Rel.min {m a b pa pb : α} (ha : Rel m a pa) (hb : Rel m b pb) :
    Rel m (min a b) (min pa pb) := by
  refine ⟨min_le_min ha.le hb.le, fun hm => ?_⟩
  rcases le_total a b with hab | hab
  · rw [min_eq_left hab] at hm ⊢
    rw [ha.eq hm]; exact min_eq_left (hab.trans hb.le)
  · rw [min_eq_right hab] at hm ⊢
    rw [hb.eq hm]; exact min_eq_right (hab.trans ha.le)

theorem Rel.add_right {m a pa c : α} (ha : Rel m a pa) (hc : 0 ≤ c) : Rel m (a + c) (pa + c) :=
  ⟨add_le_add ha.le le_rfl, fun hm => by rw [ha.eq ((le_add_of_nonneg_right hc).trans hm)]⟩

theorem Rel.add_left {m a pa c : α} (ha : Rel m a pa) (hc : 0 ≤ c) : Rel m (c + a) (c + pa) := by
  rw [add_comm c, add_comm c]; exact ha.add_right hc

theorem Rel.minList {ι : Type} {m : α} (l : List ι) (f f' : ι → α) (h : ∀ x ∈ l, Rel m (f x) (f' x)) :
    Rel m (minList (l.map f)) (minList (l.map f')) := by
  induction l with
  | nil => exact Rel.refl m ⊤
  | cons x xs ih =>
    simp only [List.map_cons, minList_cons]
    exact (h x List.mem_cons_self).min (ih fun y hy => h y (List.mem_cons_of_mem _ hy))

theorem step_rel (g : Grid α) (h : g.NonNeg) (m : α) (i j : Nat) {a b c pa pb pc : α}
    (ha : Rel m a pa) (hb : Rel m b pb) (hc : Rel m c pc) :
    Rel m (g.step i j a b c) (g.step i j pa pb pc) :=
  (ha.min ((hb.add_right h.pen).min (hc.add_right h.pen))).add_left (h.cost i j)

theorem cellVal_rel (g : Grid α) (h : g.NonNeg) (m : α) (i j : Nat) {a b c pa pb pc : α}
    (ha : Rel m a pa) (hb : Rel m b pb) (hc : Rel m c pc) :
    Rel m (g.cellVal i j a b c) (g.cellVal i j pa pb pc) := by
  unfold Grid.cellVal
  split
  · exact step_rel g h m i j ha hb hc
  · exact dead_top m

/-- a cell all of whose predecessors are dead is dead -/
theorem cellVal_dead (g : Grid α) (h : g.NonNeg) (m : α) (i j : Nat) {a b c : α}
    (ha : Dead m a) (hb : Dead m b) (hc : Dead m c) : Dead m (g.cellVal i j a b c) := by
  have := cellVal_rel g h m i j ha hb hc
  rwa [show g.cellVal i j ⊤ ⊤ ⊤ = ⊤ by simp [Grid.cellVal, Grid.step]] at this

/-! ### row invariants -/

/-- series columns `< sc` of matrix row `I` are dead, and no path may start in a later row -/
structure SInv (g : Grid α) (m : α) (I sc : Nat) : Prop where
  psi : 0 < sc → g.psi1b < I
  dead : ∀ j, j < sc → Dead m (D g I (j+1))

/-- matrix columns `> ec` of matrix row `I` are dead -/
def EInv (g : Grid α) (m : α) (I ec : Nat) : Prop := ∀ J, ec < J → Dead m (D g I J)

/-- a computed row is related, column by column, to matrix row `I` of the recurrence -/
abbrev RowRel (g : Grid α) (m : α) (I : Nat) (row : List α) : Prop :=
  List.Forall₂ (fun J v => Rel m (D g I J) v) (List.range (g.c + 1)) row

/-- dead columns stay dead in the next row (no live border cell can re-enter) -/
theorem SInv.below {g : Grid α} (h : g.NonNeg) {m : α} {I sc : Nat} (hS : SInv g m I sc) :
    SInv g m (I+1) sc := by
  refine ⟨fun hsc => (hS.psi hsc).trans (Nat.lt_succ_self I), fun j => ?_⟩
  have hcol : ∀ I', g.psi1b < I' → Dead m (D g I' 0) := fun I' hI' =>
    dead_of_eq_top (D_border_top g (Or.inr rfl) (by simp [Grid.StartOk]; omega))
  induction j with
  | zero =>
    intro hj
    have hpsi := hS.psi hj
    rw [D.eq_3]
    exact cellVal_dead g h m _ _ (hcol I hpsi) (hS.dead 0 hj) (hcol (I+1) (by omega))
  | succ j ih =>
    intro hj
    rw [D.eq_3]
    exact cellVal_dead g h m _ _ (hS.dead j (by omega)) (hS.dead (j+1) hj) (ih (by omega))

/-- dead cells propagate to the right when the row above is dead from there on -/
theorem dead_right (g : Grid α) (h : g.NonNeg) (m : α) (i ec j : Nat) (hec : ec ≤ j)
    (hE : EInv g m i ec) (hcell : Dead m (D g (i+1) (j+1))) :
    ∀ J, j + 1 ≤ J → Dead m (D g (i+1) J) := by
  intro J hJ
  induction J, hJ using Nat.le_induction with
  | base => exact hcell
  | succ J hJ ih =>
    rw [D.eq_3]
    exact cellVal_dead g h m _ _ (hE _ (by omega)) (hE _ (by omega)) ih

/-! ### the inner loop -/

/-- invariant of the inner loop of row `i` before processing series column `j` -/
structure JInv (g : Grid α) (m : α) (i j : Nat) (st : JSt α) : Prop where
  left : Rel m (D g (i+1) j) st.left
  broke : st.broke = true → ∀ J, j ≤ J → Dead m (D g (i+1) J)
  sc : SInv g m (i+1) st.sc
  /-- the cells after the last one found `≤ m` (all cells, if none was found) are dead -/
  tail : ∀ J, (if st.found = true then st.ecNext else 0) < J → J ≤ j → Dead m (D g (i+1) J)

theorem pcell_step (g : Grid α) (h : g.NonNeg) (m : α) (i sc0 ec0 : Nat)
    (hS : SInv g m (i+1) sc0) (hE : EInv g m i ec0)
    (j : Nat) (st : JSt α) (d u : α) (hinv : JInv g m i j st)
    (hd : Rel m (D g i j) d) (hu : Rel m (D g i (j+1)) u) :
    Rel m (D g (i+1) (j+1)) (pcell g m i (max (g.jStart i) sc0) ec0 j st d u).1 ∧
    JInv g m i (j+1) (pcell g m i (max (g.jStart i) sc0) ec0 j st d u).2 := by
  -- a dead cell prolongs the dead tail
  have tail : Dead m (D g (i+1) (j+1)) →
      ∀ J, (if st.found = true then st.ecNext else 0) < J → J ≤ j+1 → Dead m (D g (i+1) J) := by
    intro hd J h1 hJ
    rcases Nat.le_succ_iff.mp hJ with hJ | rfl
    · exact hinv.tail J h1 hJ
    · exact hd
  -- a skipped cell whose true value is dead
  have skip : Dead m (D g (i+1) (j+1)) →
      Rel m (D g (i+1) (j+1)) (⊤ : α) ∧ JInv g m i (j+1) { st with left := (⊤ : α) } := fun hd =>
    ⟨hd, hd, fun hb J hJ => hinv.broke hb J (by omega), hinv.sc, tail hd⟩
  unfold pcell
  by_cases hc : j < max (g.jStart i) sc0 ∨ g.jEnd i ≤ j ∨ st.broke = true
  · -- outside the loop range or after break
    rw [if_pos hc]
    apply skip
    rcases hc with hc | hc | hc
    · rcases lt_max_iff.mp hc with h1 | h1
      · exact dead_of_eq_top (D_out_of_band g i j (Or.inl h1))
      · exact hS.dead j h1
    · exact dead_of_eq_top (D_out_of_band g i j (Or.inr hc))
    · exact hinv.broke hc (j+1) (by omega)
  rw [if_neg hc]
  simp only [not_or] at hc
  obtain ⟨hjs, hje, hnb⟩ := hc
  by_cases hms : g.cost i j ≤ g.maxStep
  swap
  · -- max_step: `continue`
    rw [if_pos hms]
    apply skip
    exact dead_of_eq_top (D_succ_not_ok g i j fun hok => hms ((ok_iff g i j).mp hok).2)
  rw [if_neg (not_not.mpr hms)]
  have hok : g.ok i j = true := (ok_iff g i j).mpr
    ⟨(inBand_def g i j).mpr ⟨(le_max_left _ _).trans (not_lt.mp hjs), not_le.mp hje⟩, hms⟩
  have hrel : Rel m (D g (i+1) (j+1)) (g.step i j d u st.left) := by
    rw [D.eq_3, Grid.cellVal, if_pos hok]
    exact step_rel g h m i j hd hu hinv.left
  dsimp only
  by_cases hv : g.step i j d u st.left ≤ m
  · -- value below the threshold: the dead tail starts afresh after this cell
    rw [if_pos hv]
    exact ⟨hrel, hrel, fun hb => absurd hb hnb, hinv.sc, fun J h1 hJ => by simp at h1; omega⟩
  · -- value above the threshold
    rw [if_neg hv]
    have hdead : Dead m (D g (i+1) (j+1)) := dead_of_not_le (hrel.not_le hv)
    refine ⟨hrel, hrel, fun hb => dead_right g h m i ec0 j (by simpa using hb) hE hdead, ?_, tail hdead⟩
    -- `sc` moves up to here only if nothing was found so far and no path may start below
    dsimp only
    split
    · exact hinv.sc
    · rename_i hcond
      simp only [not_or, Bool.not_eq_true, not_lt] at hcond
      refine ⟨fun _ => by omega, fun k hk => tail hdead (k+1) ?_ (by omega)⟩
      rw [hcond.1]; simp

/-! ### one row -/

theorem prow_spec (g : Grid α) (h : g.NonNeg) (m : α) (i sc ec : Nat) (prev : List α)
    (hS : SInv g m i sc) (hE : EInv g m i ec) (hprev : RowRel g m i prev) :
    RowRel g m (i+1) (prow g m i sc ec prev).1 ∧
    SInv g m (i+1) (prow g m i sc ec prev).2.1 ∧
    EInv g m (i+1) (prow g m i sc ec prev).2.2 := by
  have h0 : Rel m (D g (i+1) 0) (g.borderCol (i+1)) := by rw [D]; exact Rel.refl _ _
  obtain ⟨hrow, hfin⟩ := scanSt_row (pcell g m i (max (g.jStart i) sc) ec)
    (fun J v => Rel m (D g i J) v) (fun J v => Rel m (D g (i+1) J) v) (JInv g m i)
    (pcell_step g h m i sc ec (hS.below h) hE) g.c prev (g.borderCol (i+1))
    { sc := sc, found := false, ecNext := i, broke := false, left := g.borderCol (i+1) }
    h0 ⟨h0, fun hb => by simp at hb, hS.below h, fun J _ hJ => by omega⟩ hprev
  refine ⟨hrow, hfin.sc, ?_⟩
  intro J hJ
  rcases Nat.lt_or_ge g.c J with hgt | hle
  · obtain ⟨J', rfl⟩ : ∃ J', J = J' + 1 := ⟨J - 1, by omega⟩
    exact dead_of_eq_top (D_out_of_band g i J' (Or.inr ((Nat.min_le_left _ _).trans (by omega))))
  · refine hfin.tail J (lt_of_le_of_lt ?_ hJ) hle
    split <;> simp [prow]

/-! ### the whole matrix -/

/-- the pruned matrix grows by one row at a time: its row `I` is the last row of `matP g m I` -/
theorem matP_eq (g : Grid α) (m : α) :
    ∀ n, matP g m n = (List.range (n+1)).map fun I => (matP g m I).getLastD [] := by
  intro n
  induction n with
  | zero => rfl
  | succ n ih =>
    have hs : matP g m (n+1) = matP g m n ++ [(prow g m n (matPAux g m n).2.1 (matPAux g m n).2.2
        ((matP g m n).getLastD [])).1] := by rw [matP, matPAux]; rfl
    rw [List.range_succ, List.map_append, ← ih, List.map_singleton, hs, List.getLastD_concat]

theorem cellOf_matP (g : Grid α) (m : α) (n I J : Nat) (hI : I ≤ n) :
    cellOf (matP g m n) I J = getT ((matP g m I).getLastD []) J := by
  rw [cellOf, matP_eq, getD_map_range _ (Nat.lt_succ_of_le hI)]

theorem matPAux_spec (g : Grid α) (h : g.NonNeg) (m : α) : ∀ n,
    RowRel g m n ((matP g m n).getLastD []) ∧
    SInv g m n (matPAux g m n).2.1 ∧ EInv g m n (matPAux g m n).2.2 := by
  intro n
  induction n with
  | zero =>
    refine ⟨List.forall₂_map_right_iff.mpr (List.forall₂_same.mpr fun J _ => by rw [D]; exact Rel.refl _ _),
      ⟨fun h0 => absurd h0 (lt_irrefl 0), fun j hj => absurd hj (Nat.not_lt_zero j)⟩, fun J hJ => ?_⟩
    · have hJ : g.psi2b < J := hJ
      exact dead_of_eq_top (D_border_top g (Or.inl rfl) (by simp [Grid.StartOk]; omega))
  | succ n ih =>
    obtain ⟨hrow, hS, hE⟩ := ih
    have := prow_spec g h m n _ _ _ hS hE hrow
    rw [matP, matPAux, List.getLastD_concat]
    exact this

/-- **Soundness of early abandoning.** Every cell of the pruned matrix over-estimates the true
recurrence value and equals it whenever that value is `≤ m`. -/
theorem matP_rel (g : Grid α) (h : g.NonNeg) (m : α) (n I J : Nat) (hI : I ≤ n) (hJ : J ≤ g.c) :
    Rel m (D g I J) (cellOf (matP g m n) I J) := by
  rw [cellOf_matP g m n I J hI]
  exact forall₂_range_getD (matPAux_spec g h m I).1 (Nat.lt_succ_of_le hJ) _

end Dtai
