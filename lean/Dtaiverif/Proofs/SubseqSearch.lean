/-
Proofs/SubseqSearch.lean — C14: the bounded scan with lower-bound skips and thresholded distance calls
keeps exactly the k smallest qualifying distances.
-/
import Mathlib.Data.List.Pairwise
import Dtaiverif.Proofs.GridDP
import Dtaiverif.Model.SubseqSearch

namespace Dtai

/-! ### the ascending store: any linear order -/

section
variable {α : Type} [LinearOrder α]

theorem insertSorted_perm (x : α × Nat) (l : List (α × Nat)) : (insertSorted x l).Perm (x :: l) := by
  induction l with
  | nil => simp [insertSorted]
  | cons y ys ih =>
    unfold insertSorted
    split
    · exact List.Perm.refl _
    · exact (List.Perm.cons y ih).trans (List.Perm.swap x y ys)

theorem insertSorted_mem (x : α × Nat) (l : List (α × Nat)) (y : α × Nat) :
    y ∈ insertSorted x l ↔ y = x ∨ y ∈ l := by
  rw [(insertSorted_perm x l).mem_iff, List.mem_cons]

theorem insertSorted_length (x : α × Nat) (l : List (α × Nat)) : (insertSorted x l).length = l.length + 1 :=
  (insertSorted_perm x l).length_eq

theorem insertSorted_sorted (x : α × Nat) (l : List (α × Nat))
    (h : l.Pairwise fun a b => a.1 ≤ b.1) : (insertSorted x l).Pairwise fun a b => a.1 ≤ b.1 := by
  induction l with
  | nil => simp [insertSorted]
  | cons z zs ih =>
    obtain ⟨hz, hzs⟩ := List.pairwise_cons.mp h
    unfold insertSorted
    split
    next hle =>
      refine List.pairwise_cons.mpr ⟨fun a ha => ?_, h⟩
      rcases List.mem_cons.mp ha with rfl | ha
      · exact hle
      · exact hle.trans (hz a ha)
    next hnle =>
      refine List.pairwise_cons.mpr ⟨fun a ha => ?_, ih hzs⟩
      rcases (insertSorted_mem x zs a).mp ha with rfl | ha
      · exact le_of_not_ge hnle
      · exact hz a ha

theorem foldr_insertSorted_sorted (l : List (α × Nat)) :
    (l.foldr insertSorted []).Pairwise fun a b => a.1 ≤ b.1 := by
  induction l with
  | nil => exact List.Pairwise.nil
  | cons x xs ih => exact insertSorted_sorted x _ ih

theorem foldr_insertSorted_perm (l : List (α × Nat)) : (l.foldr insertSorted []).Perm l := by
  induction l with
  | nil => exact List.Perm.refl _
  | cons x xs ih => exact (insertSorted_perm x _).trans (List.Perm.cons x ih)

/-- the last entry of a non-empty ascending list is a largest one -/
theorem getLastD_greatest {l : List (α × Nat)} (h : l.Pairwise fun a b => a.1 ≤ b.1) (hne : l ≠ [])
    (d : α × Nat) : l.getLastD d ∈ l ∧ ∀ x ∈ l, x.1 ≤ (l.getLastD d).1 := by
  rw [List.getLastD_eq_getLast?, List.getLast?_eq_some_getLast hne, Option.getD_some]
  exact ⟨List.getLast_mem hne, fun x hx => h.rel_getLast_of_rel_getLast_getLast hx le_rfl⟩

end

/-! ### the specification and how it evolves along the scan -/

variable {α : Type} [LinearOrderedAddCommMonoidWithTop α]

/-- candidate `(idx, dist, lb)` qualifies for the answer: finite and within the user bound -/
def Qual (M : α) (c : Nat × α × α) : Prop := c.2.1 ≤ M ∧ c.2.1 ≠ ⊤

/-- `R` is "the k smallest qualifying distances in ascending order" for the candidate list: sorted;
made of genuine qualifying candidates; at most `k`; and every qualifying candidate that is not
reported is at least as far as every reported one, the report being full (`k` entries) in that case.
This determines the list of distances uniquely (indices up to ties). -/
structure KSpec (k : Nat) (M : α) (cands : List (Nat × α × α)) (R : List (α × Nat)) : Prop where
  sorted : R.Pairwise fun a b => a.1 ≤ b.1
  genuine : ∀ x ∈ R, ∃ c ∈ cands, c.1 = x.2 ∧ c.2.1 = x.1 ∧ Qual M c
  len : R.length ≤ k
  excluded : ∀ c ∈ cands, Qual M c → (c.2.1, c.1) ∉ R → R.length = k ∧ ∀ x ∈ R, x.1 ≤ c.2.1

/-- state of the scan after the candidates `done`: the store satisfies the specification for them, and
the running bound is the user bound until the store is full and its largest distance from then on -/
structure KInv (k : Nat) (M : α) (done : List (Nat × α × α)) (st : KState α) : Prop where
  sorted : st.best.Pairwise fun a b => a.1 ≤ b.1
  genuine : ∀ x ∈ st.best, ∃ c ∈ done, c.1 = x.2 ∧ c.2.1 = x.1 ∧ Qual M c
  len : st.best.length ≤ k
  excluded : ∀ c ∈ done, Qual M c → (c.2.1, c.1) ∉ st.best →
      st.best.length = k ∧ ∀ x ∈ st.best, x.1 ≤ c.2.1
  boundM : st.bound ≤ M
  notFull : st.best.length < k → st.bound = M
  full : st.best.length = k → (∀ x ∈ st.best, x.1 ≤ st.bound) ∧ ∃ x ∈ st.best, x.1 = st.bound

variable {k k0 : Nat} {M : α} {done cands : List (Nat × α × α)} {R : List (α × Nat)} {c : Nat × α × α}
  {st : KState α}

/-- cutting a report to fewer entries -/
theorem KSpec.take (h : KSpec k0 M cands R) (hk : k ≤ k0) : KSpec k M cands (R.take k) where
  sorted := h.sorted.sublist (List.take_sublist k R)
  genuine x hx := h.genuine x (List.mem_of_mem_take hx)
  len := List.length_take_le k R
  excluded c hc hq hnot := by
    have hlen := h.len
    by_cases hin : (c.2.1, c.1) ∈ R
    · -- reported before, so cut off: it sits in `R.drop k`, above all of `R.take k`
      rw [← List.take_append_drop k R, List.mem_append] at hin
      have hdrop := hin.resolve_left hnot
      have := List.length_pos_of_mem hdrop
      rw [List.length_drop] at this
      exact ⟨by rw [List.length_take]; omega, fun x hx => h.sorted.rel_of_mem_take_of_mem_drop hx hdrop⟩
    · obtain ⟨hfull, hall⟩ := h.excluded c hc hq hin
      exact ⟨by rw [List.length_take]; omega, fun x hx => hall x (List.mem_of_mem_take hx)⟩

/-- a further candidate that is not stored: allowed if it does not qualify, or if the report is full of
entries that are no farther -/
theorem KSpec.skip (h : KSpec k M done R) (hc : Qual M c → R.length = k ∧ ∀ x ∈ R, x.1 ≤ c.2.1) :
    KSpec k M (done ++ [c]) R where
  sorted := h.sorted
  genuine x hx := (h.genuine x hx).imp fun _ h' => ⟨List.mem_append_left _ h'.1, h'.2⟩
  len := h.len
  excluded c' hc' hq hnot := by
    rcases List.mem_append.mp hc' with hd | hd
    · exact h.excluded c' hd hq hnot
    · rw [List.mem_singleton.mp hd] at hq ⊢
      exact hc hq

/-- a further candidate that is stored, provided it is no farther than any candidate left out so far: one
more entry, one more allowed -/
theorem KSpec.insert (h : KSpec k M done R) (hq : Qual M c)
    (hle : ∀ c' ∈ done, Qual M c' → (c'.2.1, c'.1) ∉ R → c.2.1 ≤ c'.2.1) :
    KSpec (k + 1) M (done ++ [c]) (insertSorted (c.2.1, c.1) R) where
  sorted := insertSorted_sorted _ _ h.sorted
  genuine x hx := by
    rcases (insertSorted_mem _ _ _).mp hx with rfl | hx
    · exact ⟨c, by simp, rfl, rfl, hq⟩
    · exact (h.genuine x hx).imp fun _ h' => ⟨List.mem_append_left _ h'.1, h'.2⟩
  len := by rw [insertSorted_length]; exact Nat.succ_le_succ h.len
  excluded c' hc' hq' hnot := by
    rw [insertSorted_mem, not_or] at hnot
    -- `c'` is not the new candidate, which is reported
    have hd : c' ∈ done := (List.mem_append.mp hc').resolve_right fun hd =>
      hnot.1 (by rw [List.mem_singleton.mp hd])
    obtain ⟨hfull, hall⟩ := h.excluded c' hd hq' hnot.2
    refine ⟨by rw [insertSorted_length, hfull], fun x hx => ?_⟩
    rcases (insertSorted_mem _ _ _).mp hx with rfl | hx
    · exact hle c' hd hq' hnot.2
    · exact hall x hx

/-! ### the scan

`KInv` is the specification plus three facts about the running bound; the step uses them only through
`le_bound`, `full_of_not_le` and `bound_le_excluded`. -/

theorem KInv.spec (h : KInv k M done st) : KSpec k M done st.best :=
  ⟨h.sorted, h.genuine, h.len, h.excluded⟩

theorem KInv.le_bound (h : KInv k M done st) : ∀ x ∈ st.best, x.1 ≤ st.bound := by
  intro x hx
  rcases h.len.lt_or_eq with hlt | heq
  · obtain ⟨c, _, _, hd, hq⟩ := h.genuine x hx
    rw [h.notFull hlt, ← hd]
    exact hq.1
  · exact (h.full heq).1 x hx

/-- what the bound test rejects is no nearer than anything stored, and the store is full -/
theorem KInv.full_of_not_le (h : KInv k M done st) {d : α} (hd : d ≤ M) (hgt : ¬ d ≤ st.bound) :
    st.best.length = k ∧ ∀ x ∈ st.best, x.1 ≤ d := by
  refine ⟨?_, fun x hx => (h.le_bound x hx).trans (le_of_not_ge hgt)⟩
  by_contra hne
  exact hgt (h.notFull (lt_of_le_of_ne h.len hne) ▸ hd)

/-- what the bound test lets through is no farther than any candidate left out so far -/
theorem KInv.bound_le_excluded (h : KInv k M done st) (c : Nat × α × α) (hc : c ∈ done) (hq : Qual M c)
    (hnot : (c.2.1, c.1) ∉ st.best) : st.bound ≤ c.2.1 := by
  obtain ⟨hfull, hall⟩ := h.excluded c hc hq hnot
  obtain ⟨_, y, hy, hyb⟩ := h.full hfull
  exact hyb ▸ hall y hy

/-- a candidate that fails the bound test leaves the state alone, whatever its lower bound -/
theorem knnStep_reject (k : Nat) (useLb : Bool) (st : KState α) (c : Nat × α × α)
    (h : ¬ (c.2.1 ≤ st.bound ∧ c.2.1 ≠ ⊤)) : knnStep k useLb st c = st := by
  simp only [knnStep, top_eq, if_neg h, ite_self]

/-- a candidate that passes the bound test also passes the lower-bound test (`lb ≤ dist`) and is stored -/
theorem knnStep_insert (k : Nat) (useLb : Bool) (st : KState α) (c : Nat × α × α) (hlb : c.2.2 ≤ c.2.1)
    (h : c.2.1 ≤ st.bound ∧ c.2.1 ≠ ⊤) :
    (knnStep k useLb st c).best = (insertSorted (c.2.1, c.1) st.best).take k ∧
    (knnStep k useLb st c).bound =
      if (knnStep k useLb st c).best.length = k
      then min st.bound ((knnStep k useLb st c).best.getLastD (c.2.1, c.1)).1 else st.bound := by
  have hskip : ¬ (useLb = true ∧ ¬ c.2.2 ≤ st.bound) := fun hs => hs.2 (hlb.trans h.1)
  simp only [knnStep, top_eq, if_neg hskip, if_pos h, and_self]

theorem knnStep_inv (k : Nat) (hk : 1 ≤ k) (useLb : Bool) (M : α) (done : List (Nat × α × α)) (st : KState α)
    (c : Nat × α × α) (hlb : c.2.2 ≤ c.2.1) (hinv : KInv k M done st) :
    KInv k M (done ++ [c]) (knnStep k useLb st c) := by
  by_cases h : c.2.1 ≤ st.bound ∧ c.2.1 ≠ ⊤
  · obtain ⟨hbest, hbound⟩ := knnStep_insert k useLb st c hlb h
    generalize knnStep k useLb st c = st' at hbest hbound ⊢
    -- the store: one more entry among `k + 1`, cut back to `k`
    have hs : KSpec k M (done ++ [c]) st'.best := hbest ▸
      (hinv.spec.insert ⟨h.1.trans hinv.boundM, h.2⟩ fun c' hc' hq' hn =>
        h.1.trans (hinv.bound_le_excluded c' hc' hq' hn)).take (Nat.le_succ k)
    have hlen : st'.best.length = min k (st.best.length + 1) := by
      rw [hbest, List.length_take, insertSorted_length]
    exact { hs with
      boundM := by
        rw [hbound]
        split
        · exact (min_le_left _ _).trans hinv.boundM
        · exact hinv.boundM
      notFull := fun hlt => by
        rw [hbound, if_neg (ne_of_lt hlt)]
        exact hinv.notFull (by omega)
      full := fun hfull => by
        -- the last stored entry is the largest, and within the old bound like everything stored
        obtain ⟨hmem, hmax⟩ := getLastD_greatest hs.sorted (List.ne_nil_of_length_pos (by omega)) (c.2.1, c.1)
        generalize st'.best.getLastD (c.2.1, c.1) = y at hbound hmem hmax
        have hle : y.1 ≤ st.bound := by
          rcases (insertSorted_mem _ _ _).mp (List.mem_of_mem_take (hbest ▸ hmem)) with rfl | hold
          · exact h.1
          · exact hinv.le_bound y hold
        rw [hbound, if_pos hfull, min_eq_right hle]
        exact ⟨hmax, y, hmem, rfl⟩ }
  · rw [knnStep_reject k useLb st c h]
    -- the store and the bound are unchanged
    have hs := hinv.spec.skip fun hq => hinv.full_of_not_le hq.1 fun hle => h ⟨hle, hq.2⟩
    exact { hs, hinv with }

theorem foldl_knnStep_inv (k : Nat) (hk : 1 ≤ k) (useLb : Bool) (M : α) (cands done : List (Nat × α × α))
    (st : KState α) (hlb : ∀ c ∈ cands, c.2.2 ≤ c.2.1) (hinv : KInv k M done st) :
    KInv k M (done ++ cands) (cands.foldl (knnStep k useLb) st) := by
  induction cands generalizing done st with
  | nil => simpa using hinv
  | cons c cs ih =>
    have := ih (done ++ [c]) (knnStep k useLb st c) (fun c' hc' => hlb c' (List.mem_cons_of_mem _ hc'))
      (knnStep_inv k hk useLb M done st c (hlb c List.mem_cons_self) hinv)
    simpa [List.append_assoc] using this

theorem knnScan_inv (k : Nat) (hk : 1 ≤ k) (useLb : Bool) (M : α) (cands : List (Nat × α × α))
    (hlb : ∀ c ∈ cands, c.2.2 ≤ c.2.1) : KInv k M cands (knnScan k useLb M cands) :=
  foldl_knnStep_inv k hk useLb M cands [] _ hlb
    { sorted := .nil, genuine := nofun, len := Nat.zero_le k, excluded := nofun, boundM := le_rfl,
      notFull := fun _ => rfl, full := fun h => absurd h (Nat.ne_of_lt hk) }

/-- `k = None`: a candidate skipped by its lower bound lies beyond the user bound anyway (`lb ≤ dist`), so
the reported value does not depend on `use_lb` -/
theorem allVal_eq (useLb : Bool) (M : α) (c : Nat × α × α) (hlb : c.2.2 ≤ c.2.1) :
    allVal useLb M c = if c.2.1 ≤ M then c.2.1 else ⊤ := by
  unfold allVal
  split
  next hskip => rw [if_neg fun h => hskip.2 (hlb.trans h)]; rfl
  next => rfl

/-! ### the object that keeps the last answer -/

/-- the two outcomes of a query: the stored answer for a `k0 ≥ k` is cut to `k` entries and the object is
left alone, or a fresh scan is made and stored -/
theorem ssQuery_cases (useLb : Bool) (M : α) (cands : List (Nat × α × α)) (o : SSObj α) (k : Nat) :
    (∃ k0 R, o.stored = some (k0, R) ∧ k ≤ k0 ∧ ssQuery useLb M cands o k = (o, R.take k)) ∨
    ssQuery useLb M cands o k =
      ({ stored := some (k, (knnScan k useLb M cands).best) }, (knnScan k useLb M cands).best) := by
  unfold ssQuery
  split
  next k0 R ho =>
    split
    next hle => exact Or.inl ⟨k0, R, ho, hle, rfl⟩
    next => exact Or.inr rfl
  next => exact Or.inr rfl

end Dtai
