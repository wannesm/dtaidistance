/-
Proofs/Path.lean — a finite cell of the recurrence has a predecessor realising it (`D_pred`); hence the
greedy trace-back of `dtw.best_path` through the exact matrix is an admissible path whose cost is the
value of the cell it starts from (C05 core), and every cell value is attained (`D_attained`).
-/
import Dtaiverif.Proofs.GridDP
import Dtaiverif.Model.Path

namespace Dtai

variable {α : Type} [LinearOrderedAddCommMonoidWithTop α]

/-- any path whose steps realise the recurrence is admissible and telescopes to the cell value -/
theorem isBack_valid (g : Grid α) : ∀ (path : List Cell) (q : Cell), g.IsBack (q :: path) →
    g.ValidRev (q :: path) ∧ g.costRev (q :: path) = D g (q.1+1) (q.2+1) := by
  intro path
  induction path with
  | nil =>
    intro q h
    obtain ⟨hok, hs, hD⟩ := h
    exact ⟨⟨hs, hok⟩, by rw [Grid.costRev, hD, add_zero]⟩
  | cons p rest ih =>
    intro q h
    obtain ⟨hok, hstep, hD, hrest⟩ := h
    obtain ⟨hv, hc⟩ := ih p hrest
    exact ⟨⟨hstep, hok, hv⟩, by rw [Grid.costRev, hc, hD]⟩

/-- the three-way minimum, split the way `best_path` takes its argmin (the first minimum wins) -/
theorem min3_first (a b c : α) :
    (a ≤ b ∧ a ≤ c) ∧ min a (min b c) = a ∨
    ¬ (a ≤ b ∧ a ≤ c) ∧ b ≤ c ∧ min a (min b c) = b ∨
    ¬ (a ≤ b ∧ a ≤ c) ∧ ¬ b ≤ c ∧ min a (min b c) = c := by
  by_cases h : a ≤ b ∧ a ≤ c
  · exact Or.inl ⟨h, min_eq_left (le_min h.1 h.2)⟩
  · have : min a (min b c) = min b c := min_eq_right (le_of_not_ge fun hh => h (le_min_iff.mp hh))
    by_cases hbc : b ≤ c
    · exact Or.inr (Or.inl ⟨h, hbc, by rw [this, min_eq_left hbc]⟩)
    · exact Or.inr (Or.inr ⟨h, hbc, by rw [this, min_eq_right (le_of_not_ge hbc)]⟩)

/-- one step of `dtw.best_path` off the border: the first minimum of `[diag, up + pen, left + pen]` -/
theorem backtrack_succ {β : Type} [Add β] [LE β] [DecidableLE β] (M : Nat → Nat → β) (pen : β)
    (fuel I J : Nat) :
    backtrack M pen (fuel+1) (I+1) (J+1) = (I, J) ::
      (if M I J ≤ M I (J+1) + pen ∧ M I J ≤ M (I+1) J + pen then backtrack M pen fuel I J
       else if M I (J+1) + pen ≤ M (I+1) J + pen then backtrack M pen fuel I (J+1)
       else backtrack M pen fuel (I+1) J) := by
  rw [backtrack, if_neg (by omega)]; rfl

/-- `dtw.best_path` stops on the border -/
theorem backtrack_border {β : Type} [Add β] [LE β] [DecidableLE β] (M : Nat → Nat → β) (pen : β)
    (fuel : Nat) {I J : Nat} (h : I = 0 ∨ J = 0) : backtrack M pen fuel I J = [] := by
  cases fuel <;> simp [backtrack, h]

/-- **One cell.** A cell with a finite value is admissible, and either a path may start in it and its
value is its own cost, or one of its three predecessors is finite and realises the recurrence; in
both cases this is where `dtw.best_path` stops, resp. moves to. -/
theorem D_pred (g : Grid α) (h : g.NonNeg) (I J : Nat) (hfin : D g (I+1) (J+1) ≠ ⊤) :
    g.ok I J = true ∧
    ((g.StartOk (I, J) ∧ D g (I+1) (J+1) = g.cost I J + 0 ∧
        ∀ fuel, backtrack (D g) g.pen (fuel+1) (I+1) (J+1) = [(I, J)]) ∨
     ∃ p : Cell, IsStep p (I, J) ∧ D g (p.1+1) (p.2+1) ≠ ⊤ ∧
        D g (I+1) (J+1) = g.cost I J + (D g (p.1+1) (p.2+1) + g.stepPen p (I, J)) ∧
        ∀ fuel, backtrack (D g) g.pen (fuel+1) (I+1) (J+1) =
          (I, J) :: backtrack (D g) g.pen fuel (p.1+1) (p.2+1)) := by
  have hok : g.ok I J = true := by
    by_contra hn; exact hfin (D_succ_not_ok g I J hn)
  refine ⟨hok, ?_⟩
  have hD := D_succ_ok g I J hok
  have hmin := (add_ne_top (hD ▸ hfin)).2
  -- in a start cell the diagonal predecessor is a zero border cell, which is the first minimum
  have hstart : g.StartOk (I, J) → D g I J ≤ D g I (J+1) + g.pen ∧ D g I J ≤ D g (I+1) J + g.pen := by
    intro hs
    rw [D_start g (I, J) hs]
    exact ⟨add_nonneg (D_nonneg g h _ _) h.pen, add_nonneg (D_nonneg g h _ _) h.pen⟩
  rcases min3_first (D g I J) (D g I (J+1) + g.pen) (D g (I+1) J + g.pen) with
    ⟨hc, hm⟩ | ⟨hc, hc', hm⟩ | ⟨hc, hc', hm⟩ <;> rw [hm] at hD hmin
  · -- diagonal predecessor: a border cell (then the path starts here) or an inner cell
    have start : I = 0 ∨ J = 0 → g.StartOk (I, J) ∧ D g (I+1) (J+1) = g.cost I J + 0 ∧
        ∀ fuel, backtrack (D g) g.pen (fuel+1) (I+1) (J+1) = [(I, J)] := fun hb => by
      have hs : g.StartOk (I, J) := by
        by_contra hs; exact hmin (D_border_top g hb hs)
      exact ⟨hs, by rw [hD, D_start g (I, J) hs], fun fuel => by
        rw [backtrack_succ, if_pos hc, backtrack_border _ _ _ hb]⟩
    cases I with
    | zero => exact Or.inl (start (Or.inl rfl))
    | succ I' =>
      cases J with
      | zero => exact Or.inl (start (Or.inr rfl))
      | succ J' =>
        exact Or.inr ⟨(I', J'), Or.inl ⟨rfl, rfl⟩, hmin, by rw [hD, stepPen_diag, add_zero],
          fun fuel => by rw [backtrack_succ, if_pos hc]⟩
  · -- upper predecessor; not in border row 0, where the diagonal predecessor would be a start cell
    have hfinU := (add_ne_top hmin).1
    cases I with
    | zero =>
      have hs : g.StartOk (0, J+1) := by
        by_contra hs; exact hfinU (D_border_top g (Or.inl rfl) hs)
      exact absurd (hstart (Grid.StartOk.mono hs le_rfl (Nat.le_succ J))) hc
    | succ I' =>
      exact Or.inr ⟨(I', J), Or.inr (Or.inl ⟨rfl, rfl⟩), hfinU, by rw [hD, stepPen_up],
        fun fuel => by rw [backtrack_succ, if_neg hc, if_pos hc']⟩
  · -- left predecessor; likewise not in border column 0
    have hfinL := (add_ne_top hmin).1
    cases J with
    | zero =>
      have hs : g.StartOk (I+1, 0) := by
        by_contra hs; exact hfinL (D_border_top g (Or.inr rfl) hs)
      exact absurd (hstart (Grid.StartOk.mono hs (Nat.le_succ I) le_rfl)) hc
    | succ J' =>
      exact Or.inr ⟨(I, J'), Or.inr (Or.inr ⟨rfl, rfl⟩), hfinL, by rw [hD, stepPen_left],
        fun fuel => by rw [backtrack_succ, if_neg hc, if_neg hc']⟩

/-- The deterministic trace-back of `dtw.best_path` (first minimum of `[diag, up+pen, left+pen]`)
started in a cell with a finite value yields a path that realises the recurrence in every step. -/
theorem backtrack_isBack (g : Grid α) (h : g.NonNeg) : ∀ fuel I J, I + J + 2 ≤ fuel →
    D g (I+1) (J+1) ≠ ⊤ →
    ∃ rest, backtrack (D g) g.pen fuel (I+1) (J+1) = (I, J) :: rest ∧ g.IsBack ((I, J) :: rest) := by
  intro fuel
  induction fuel with
  | zero => intro I J hf; omega
  | succ fuel ih =>
    intro I J hf hfin
    obtain ⟨hok, ⟨hs, hD, hbt⟩ | ⟨p, hstep, hp, hD, hbt⟩⟩ := D_pred g h I J hfin
    · exact ⟨[], hbt fuel, hok, hs, hD⟩
    · obtain ⟨rest, hr, hib⟩ := ih p.1 p.2 (by have := (isStep_iff p (I, J)).mp hstep; omega) hp
      exact ⟨p :: rest, by rw [hbt, hr], hok, hstep, hD, hib⟩

/-- `dtw.best_path` on the exact matrix: admissible path from the requested cell whose cost equals the
value of that cell -/
theorem backtrack_valid (g : Grid α) (h : g.NonNeg) (I J : Nat) (hfin : D g (I+1) (J+1) ≠ ⊤) :
    ∃ rest, backtrack (D g) g.pen (I + J + 2) (I+1) (J+1) = (I, J) :: rest ∧
      g.ValidRev ((I, J) :: rest) ∧ g.costRev ((I, J) :: rest) = D g (I+1) (J+1) := by
  obtain ⟨rest, hbt, hib⟩ := backtrack_isBack g h (I+J+2) I J le_rfl hfin
  exact ⟨rest, hbt, isBack_valid g rest (I, J) hib⟩

/-- `Att g I J`: the value of cell `(I,J)` is `⊤` or realised by an admissible path ending there. -/
def Att (g : Grid α) (I J : Nat) : Prop :=
  D g (I+1) (J+1) = ⊤ ∨ ∃ path, g.ValidRev ((I,J) :: path) ∧ g.costRev ((I,J) :: path) = D g (I+1) (J+1)

/-- every cell value is attained: by the trace-back from that cell -/
theorem D_attained (g : Grid α) (h : g.NonNeg) : ∀ n I J, I + J = n → Att g I J := by
  intro n I J _
  by_cases hfin : D g (I+1) (J+1) = ⊤
  · exact Or.inl hfin
  · obtain ⟨rest, -, hv, hc⟩ := backtrack_valid g h I J hfin
    exact Or.inr ⟨rest, hv, hc⟩

end Dtai
