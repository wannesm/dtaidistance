/-
Proofs/CostInst.lean — the executable cost domain of the driver (`Cost` = ℕ ∪ {∞}) is a
`LinearOrderedAddCommMonoidWithTop` *with the very operations the driver runs*, so every generic
theorem applies verbatim to what the driver computes.
-/
import Mathlib.Algebra.Order.AddGroupWithTop
import Dtaiverif.Model.Basic

namespace Dtai.Cost

theorem add_def (a b : Cost) : a + b = Cost.add a b := rfl
theorem le_def (a b : Cost) : (a ≤ b) = Cost.le a b := rfl

instance : LinearOrderedAddCommMonoidWithTop Cost where
  add := Cost.add
  zero := .fin 0
  top := .inf
  le := Cost.le
  lt := fun a b => a ≤ b ∧ ¬ b ≤ a
  min := fun a b => if a ≤ b then a else b
  max := fun a b => if a ≤ b then b else a
  toDecidableLE := Cost.decLe
  toDecidableEq := inferInstance
  nsmul := nsmulRec
  add_assoc := by intro a b c; cases a <;> cases b <;> cases c <;> simp [add_def, Cost.add, Nat.add_assoc]
  zero_add := by intro a; cases a <;> simp [add_def, Cost.add]
  add_zero := by intro a; cases a <;> simp [add_def, Cost.add]
  add_comm := by intro a b; cases a <;> cases b <;> simp [add_def, Cost.add, Nat.add_comm]
  le_refl := by intro a; cases a <;> simp [Cost.le]
  le_trans := by
    intro a b c; cases a <;> cases b <;> cases c <;> simp [Cost.le]; exact Nat.le_trans
  le_antisymm := by
    intro a b; cases a <;> cases b <;> simp [Cost.le]; exact Nat.le_antisymm
  le_total := by intro a b; cases a <;> cases b <;> simp [Cost.le]; exact Nat.le_total _ _
  lt_iff_le_not_ge := by intro a b; rfl
  min_def := by intro a b; rfl
  max_def := by intro a b; rfl
  compare_eq_compareOfLessAndEq := by intro a b; rfl
  add_le_add_left := by
    intro a b hab c
    cases a <;> cases b <;> cases c <;> simp_all [add_def, Cost.le, Cost.add]
  le_top := by intro a; cases a <;> simp [Cost.le]
  top_add' := by intro a; cases a <;> rfl
  isAddLeftRegular_of_ne_top := by
    intro a ha b c hbc
    cases a with
    | inf => exact absurd rfl ha
    | fin n =>
      cases b <;> cases c <;> simp_all [add_def, Cost.add]

end Dtai.Cost
