/-
Proofs/Rolling.lean — every access of the rolling two-row buffer stays inside its own row.

The buffer row of matrix row `i` holds the columns `[skip i, skip i + length)`. It works because of how the band
`[maxj i, minj i)` moves from one row to the next: its start never moves left (`maxj_pred_le`), its end never
passes `l2` (`minj_le`), and a row together with the start of the row above spans at most `ldiff + 2 * window`
columns (`minj_le_maxj_pred_add`). Either `length = l2 + 1` and nothing is shifted, or
`length = ldiff + 2 * window + 1` and each row is shifted by its `maxj` (`skip_eq`). Hence the buffer row of the
row above, and with it the row's own, holds the band of the row and one more cell (`band_in_buffer`), which is
all the accesses need.
-/
import Mathlib.Tactic.Common
import Dtaiverif.Model.Rolling

namespace Dtai
namespace Roll
variable (p : Roll)

theorem dl_eq : p.dl = p.l1 - p.l2 := by
  unfold dl; split <;> omega

theorem ldiff_eq : p.ldiff = (p.l1 - p.l2) + (p.l2 - p.l1) := by
  unfold ldiff; split <;> omega

theorem ldiffWindow_eq : p.ldiffWindow = p.window + (p.l2 - p.l1) := by
  rw [ldiffWindow, ldiff_eq]; split <;> omega

/-- `maxj` is `j_start` of dtw.py -/
theorem maxj_eq (hw : 1 ≤ p.window) (i : Nat) : p.maxj i = i + 1 - (p.l1 - p.l2) - p.window := by
  rw [maxj, dlWindow, dl_eq]; split <;> omega

/-- `minj` is `j_end` of dtw.py -/
theorem minj_eq (i : Nat) : p.minj i = min p.l2 (i + (p.l2 - p.l1) + p.window) := by
  rw [minj, ldiffWindow_eq, Nat.add_right_comm, Nat.add_assoc i]

theorem maxj_pred_le (hw : 1 ≤ p.window) (i : Nat) : p.maxj (i - 1) ≤ p.maxj i := by
  rw [maxj_eq p hw, maxj_eq p hw]
  exact Nat.sub_le_sub_right (Nat.sub_le_sub_right (by omega) _) _

theorem maxj_le (hw : 1 ≤ p.window) (i : Nat) (hi : i < p.l1) : p.maxj i ≤ p.l2 := by
  rw [maxj_eq p hw]; omega

theorem minj_le (i : Nat) : p.minj i ≤ p.l2 := Nat.min_le_left ..

/-- the last row reaches the last column -/
theorem minj_last (hw : 1 ≤ p.window) : p.minj (p.l1 - 1) = p.l2 := by
  rw [minj_eq]; exact Nat.min_eq_left (by omega)

theorem minj_le_maxj_pred_add (hw : 1 ≤ p.window) (i : Nat) :
    p.minj i ≤ p.maxj (i - 1) + (p.ldiff + 2 * p.window) := by
  rw [maxj_eq p hw, minj_eq, ldiff_eq]
  exact Nat.le_trans (Nat.min_le_right ..) (by omega)

theorem skip_eq :
    p.length = p.l2 + 1 ∧ (∀ i, p.skip i = 0) ∨
    p.length = p.ldiff + 2 * p.window + 1 ∧ (∀ i, p.skip i = p.maxj i) := by
  by_cases h : p.length = p.l2 + 1
  · exact .inl ⟨h, fun i => if_neg (not_not.mpr h)⟩
  · exact .inr ⟨by rw [length] at h ⊢; omega, fun i => if_pos h⟩

/-- with `window ≥ 1` the first row is not shifted, so `skipp` needs no case for it -/
theorem skipp_eq (hw : 1 ≤ p.window) (i : Nat) : p.skipp i = p.skip (i - 1) := by
  unfold skipp; split
  · subst i; rw [skip, maxj_eq p hw]; split <;> omega
  · rfl

/-- the buffer row of the row above starts no further right than the row's own, which starts no further right
than the band; and the band ends inside the former (hence inside both) with one cell to spare -/
theorem band_in_buffer (hw : 1 ≤ p.window) (i : Nat) :
    p.skip (i - 1) ≤ p.skip i ∧ p.skip i ≤ p.maxj i ∧ p.minj i < p.skip (i - 1) + p.length := by
  obtain ⟨hL, hs⟩ | ⟨hL, hs⟩ := p.skip_eq <;> rw [hs, hs, hL]
  · exact ⟨Nat.le_refl _, Nat.zero_le _, by have := p.minj_le i; omega⟩
  · exact ⟨p.maxj_pred_le hw i, Nat.le_refl _, Nat.lt_succ_of_le (p.minj_le_maxj_pred_add hw i)⟩

end Roll

/-- For every row `i` and every column `j` of the loop range `[maxj, minj)` the four offsets used by
`dtw_distance*` are inside `[0, length)`: no access leaves the row it is meant for (and therefore none
leaves the `2*length` doubles that were allocated). Holds for all `l1, l2` and `window ≥ 1`. -/
theorem rolling_in_row (p : Roll) (hw : 1 ≤ p.window) (i j : Nat) (hj1 : p.maxj i ≤ j) (hj2 : j < p.minj i) :
    p.skipp i ≤ j ∧ j - p.skipp i + 1 < p.length ∧
    p.skip i ≤ j ∧ j - p.skip i + 1 < p.length := by
  obtain ⟨h1, h2, h3⟩ := p.band_in_buffer hw i
  rw [p.skipp_eq hw]
  omega

/-- a row that reaches the last column: the cell `l2 - skip` read after it (psi relaxation, result) is inside
the row as well -/
theorem rolling_row_end (p : Roll) (hw : 1 ≤ p.window) (i : Nat) (hi : i < p.l1) (hend : p.minj i = p.l2) :
    p.skip i ≤ p.l2 ∧ p.l2 - p.skip i < p.length := by
  obtain ⟨h1, h2, h3⟩ := p.band_in_buffer hw i
  have := p.maxj_le hw i hi
  omega

/-- the psi scan of the last row (`for (i = MAX(0, l2 - skip - psi_2e); i < l2 - skip + 1; i++)`) stays
inside the row as well -/
theorem rolling_last_row_scan (p : Roll) (h1 : 1 ≤ p.l1) (hw : 1 ≤ p.window) :
    p.skip (p.l1 - 1) ≤ p.l2 ∧ p.l2 - p.skip (p.l1 - 1) < p.length :=
  rolling_row_end p hw _ (by omega) (p.minj_last hw)

end Dtai
