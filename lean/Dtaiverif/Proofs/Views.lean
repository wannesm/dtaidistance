/-
Proofs/Views.lean — the two halves of every guard of `Model/Views.lean`, for each of the three shapes:
if the flag test passes, unit-stride addressing reads what strided addressing reads; otherwise the
C-order copy is a C-contiguous view of the same shape whose kernel reads are the logical content.
-/
import Dtaiverif.Model.Views

namespace Dtai
variable {α : Type}

/-- NumPy's rule behind the contiguity flags: the stride of a dimension of extent ≤ 1 is irrelevant,
because the only index it is ever multiplied with is `0` -/
theorem idx_mul_stride {i n : Nat} {s e : Int} (hi : i < n) (h : (decide (n ≤ 1) || decide (s = e)) = true) :
    (i : Int) * s = i * e := by
  rcases Bool.or_eq_true _ _ ▸ h with h | h
  · have : i = 0 := by have := of_decide_eq_true h; omega
    simp [this]
  · rw [of_decide_eq_true h]

/-- row-major decoding: the offset `a * d + k` with `k < d` is row `a`, column `k` -/
theorem rowMajor_div {a d k : Nat} (hk : k < d) : (a * d + k) / d = a := by
  rw [Nat.mul_comm, Nat.mul_add_div (by omega), Nat.div_eq_of_lt hk, Nat.add_zero]

theorem rowMajor_mod {a d k : Nat} (hk : k < d) : (a * d + k) % d = k := by
  rw [Nat.mul_comm, Nat.mul_add_mod, Nat.mod_eq_of_lt hk]

theorem View1.kernel_eq_get (mem : Int → α) (v : View1) (fl : ContigFlag) (h : v.flag fl = true) (i : Nat) (hi : i < v.n) :
    v.kernel mem i = v.get mem i := by
  rw [View1.kernel, View1.get, idx_mul_stride hi h, Int.mul_one]

theorem View1.copyC_flag (mem : Int → α) (v : View1) (fl : ContigFlag) :
    (v.copyC mem).2.flag fl = true ∧ (v.copyC mem).2.n = v.n :=
  ⟨by simp [View1.copyC, View1.flag], rfl⟩

theorem View1.kernel_copyC (mem : Int → α) (v : View1) (i : Nat) :
    (v.copyC mem).2.kernel (v.copyC mem).1 i = v.get mem i := by
  simp [View1.copyC, View1.kernel]

theorem View2.kernel_eq_get (mem : Int → α) (v : View2) (h : v.cContig = true) (i k : Nat) (hi : i < v.n) (hk : k < v.d) :
    v.kernel mem i k = v.get mem i k := by
  simp only [View2.cContig, Bool.and_eq_true] at h
  rw [View2.kernel, View2.get, idx_mul_stride hk h.1, idx_mul_stride hi h.2]
  congr 1
  push_cast
  omega

theorem View2.copyC_cContig (mem : Int → α) (v : View2) :
    (v.copyC mem).2.cContig = true ∧ (v.copyC mem).2.n = v.n ∧ (v.copyC mem).2.d = v.d :=
  ⟨by simp [View2.copyC, View2.cContig], rfl, rfl⟩

theorem View2.kernel_copyC (mem : Int → α) (v : View2) (i k : Nat) (hk : k < v.d) :
    (v.copyC mem).2.kernel (v.copyC mem).1 i k = v.get mem i k := by
  simp only [View2.copyC, View2.kernel, Int.zero_add, Int.toNat_natCast]
  rw [rowMajor_div hk, rowMajor_mod hk]

theorem View3.kernel_eq_get (mem : Int → α) (v : View3) (h : v.cContig = true) (i j k : Nat)
    (hi : i < v.n) (hj : j < v.len) (hk : k < v.d) : v.kernel mem i j k = v.get mem i j k := by
  simp only [View3.cContig, Bool.and_eq_true] at h
  rw [View3.kernel, View3.get, idx_mul_stride hk h.1.1, idx_mul_stride hj h.1.2, idx_mul_stride hi h.2]
  congr 1
  push_cast
  rw [Int.add_mul, Int.mul_assoc]
  omega

theorem View3.copyC_cContig (mem : Int → α) (v : View3) :
    (v.copyC mem).2.cContig = true ∧ (v.copyC mem).2.n = v.n ∧ (v.copyC mem).2.len = v.len ∧
    (v.copyC mem).2.d = v.d :=
  ⟨by simp [View3.copyC, View3.cContig], rfl, rfl, rfl⟩

theorem View3.kernel_copyC (mem : Int → α) (v : View3) (i j k : Nat) (hj : j < v.len) (hk : k < v.d) :
    (v.copyC mem).2.kernel (v.copyC mem).1 i j k = v.get mem i j k := by
  simp only [View3.copyC, View3.kernel, Int.zero_add, Int.toNat_natCast]
  -- the offset is decoded in two row-major steps: `/ d`, `% d`, then `/ len`, `% len`
  rw [Nat.mod_mul_left_div_self, Nat.mul_comm v.len v.d, ← Nat.div_div_eq_div_mul, rowMajor_div hk,
    rowMajor_mod hk, rowMajor_div hj, rowMajor_mod hj]

end Dtai
