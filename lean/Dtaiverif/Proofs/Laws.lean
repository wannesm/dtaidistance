/-
Proofs/Laws.lean — C10: monotonicity, symmetry and identity laws of the DTW recurrence.
-/
import Dtaiverif.Proofs.Dist

namespace Dtai

variable {α : Type} [LinearOrderedAddCommMonoidWithTop α]

/-! ### one monotonicity lemma for window, psi, max_step and penalty -/

/-- `g'` is at least as permissive as `g`: same sizes and point costs, every admissible pair of `g` is
admissible in `g'`, borders of `g'` are below those of `g`, penalty not larger -/
structure Relaxes (g' g : Grid α) : Prop where
  r : g'.r = g.r
  c : g'.c = g.c
  cost : ∀ i j, g'.cost i j = g.cost i j
  ok : ∀ i j, g.ok i j = true → g'.ok i j = true
  b0 : ∀ J, g'.border0 J ≤ g.border0 J
  bc : ∀ I, g'.borderCol I ≤ g.borderCol I
  pen : g'.pen ≤ g.pen

theorem Relaxes.refl (g : Grid α) : Relaxes g g :=
  ⟨rfl, rfl, fun _ _ => rfl, fun _ _ h => h, fun _ => le_rfl, fun _ => le_rfl, le_rfl⟩

/-- a border that is free (`0`) for more cells is below one that is free for fewer -/
theorem ite_zero_top_le {p q : Prop} [Decidable p] [Decidable q] (h : q → p) :
    (if p then (0 : α) else ⊤) ≤ if q then 0 else ⊤ := by
  by_cases hq : q
  · rw [if_pos hq, if_pos (h hq)]
  · rw [if_neg hq]; exact le_top

theorem D_mono (g' g : Grid α) (h : Relaxes g' g) : ∀ I J, D g' I J ≤ D g I J := by
  intro I J
  fun_induction D g I J with
  | case1 J => rw [D]; exact h.b0 J
  | case2 I => rw [D]; exact h.bc _
  | case3 I J ih1 ih2 ih3 =>
    rw [D, Grid.cellVal, Grid.cellVal]
    by_cases hok : g.ok I J = true
    · rw [if_pos hok, if_pos (h.ok I J hok), Grid.step, Grid.step, h.cost]
      exact add_le_add le_rfl (min_le_min ih1 (min_le_min (add_le_add ih2 h.pen) (add_le_add ih3 h.pen)))
    · rw [if_neg hok]; exact le_top

theorem endCells_subset {β : Type} (g' g : Grid β) (hr : g'.r = g.r) (hc : g'.c = g.c)
    (h1 : g.psi1e ≤ g'.psi1e) (h2 : g.psi2e ≤ g'.psi2e) : ∀ p ∈ endCells g, p ∈ endCells g' := by
  intro p hp
  rw [mem_endCells_iff] at hp ⊢
  omega

/-- a more permissive setting never has a larger distance -/
theorem dtwSpec_mono (g' g : Grid α) (h : Relaxes g' g)
    (h1 : g.psi1e ≤ g'.psi1e) (h2 : g.psi2e ≤ g'.psi2e) : dtwSpec g' ≤ dtwSpec g := by
  simp only [dtwSpec_eq, le_minList_iff, List.forall_mem_map]
  exact fun p hp =>
    (minList_le_mem _ _ (List.mem_map_of_mem (endCells_subset g' g h.r h.c h1 h2 p hp))).trans
      (D_mono g' g h p.1 p.2)

/-! ### non-negativity -/

theorem dtwSpec_nonneg (g : Grid α) (h : g.NonNeg) : 0 ≤ dtwSpec g := by
  simp only [dtwSpec_eq, le_minList_iff, List.forall_mem_map]
  exact fun p _ => D_nonneg g h _ _

/-! ### symmetry -/

/-- swap the two series together with their psi entries -/
def Grid.transpose (g : Grid α) : Grid α :=
  { r := g.c, c := g.r, window := g.window, pen := g.pen, maxStep := g.maxStep,
    psi1b := g.psi2b, psi1e := g.psi2e, psi2b := g.psi1b, psi2e := g.psi1e,
    cost := fun i j => g.cost j i }

theorem ok_transpose (g : Grid α) (i j : Nat) (hi : i < g.r) (hj : j < g.c) :
    g.transpose.ok j i = g.ok i j := by
  have hband : g.transpose.inBand j i = g.inBand i j := by
    rw [Bool.eq_iff_iff, inBand_iff, inBand_iff]
    simp only [Grid.transpose]
    omega
  unfold Grid.ok
  rw [hband]
  rfl

theorem D_transpose (g : Grid α) : ∀ I J, I ≤ g.r → J ≤ g.c → D g.transpose J I = D g I J := by
  intro I J
  fun_induction D g I J with
  | case1 J =>
    intro _ _
    cases J with
    | zero => rw [D]; simp [Grid.border0, Grid.transpose]
    | succ J => rw [D]; rfl
  | case2 I => intro _ _; rw [D]; rfl
  | case3 I J ih1 ih2 ih3 =>
    intro hI hJ
    rw [D, Grid.cellVal, Grid.cellVal, ok_transpose g I J (by omega) (by omega),
      ih1 (by omega) (by omega), ih2 (by omega) hJ, ih3 hI (by omega)]
    split
    · simp only [Grid.step, Grid.transpose]
      rw [min_comm (D g I (J+1) + g.pen)]
    · rfl

/-- the end cells of the transposed grid are the transposed end cells, last column first -/
theorem dtwSpec_transpose (g : Grid α) : dtwSpec g.transpose = dtwSpec g := by
  simp only [dtwSpec_eq, endCells, List.map_append, List.map_map, minList_append]
  rw [min_comm]
  congr 2 <;> refine List.map_congr_left fun k _ => ?_
  · exact D_transpose g g.r (g.c - k) le_rfl (by omega)
  · exact D_transpose g (g.r - k) g.c (by omega) le_rfl

end Dtai
