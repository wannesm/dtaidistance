/-
Proofs/NW.lean — Needleman–Wunsch: the executable score matrix computes the recurrence, the traceback
(any preference order) builds an alignment that realises the recurrence value, and that value is optimal
over all alignments. Each part assumes of the scores what it uses: no law at all for the matrix (only
`+`, `0`, `min`), a linear order (`min` picks one of its arguments) for the traceback, an ordered monoid
for optimality.
-/
import Mathlib.Algebra.Order.Monoid.Defs
import Mathlib.Tactic.Common
import Dtaiverif.Model.NW

namespace Dtai

variable {σ α : Type}

/-! ### the recurrence unfolded -/

section
variable [Add α] [Zero α] [Min α]

theorem nwSpec_nil_left (sub : σ → σ → α) (gap : α) (zs : List σ) :
    nwSpec sub gap [] zs = borderVal gap zs.length := by
  rw [nwSpec]

theorem nwSpec_nil_right (sub : σ → σ → α) (gap : α) (xs : List σ) :
    nwSpec sub gap xs [] = borderVal gap xs.length := by
  cases xs with
  | nil => rw [nwSpec]
  | cons x xs => rw [nwSpec]; rfl

theorem nwSpec_cons (sub : σ → σ → α) (gap : α) (x : σ) (xs : List σ) (z : σ) (zs : List σ) :
    nwSpec sub gap (x :: xs) (z :: zs) =
      min (min (gap + nwSpec sub gap (x :: xs) zs) (gap + nwSpec sub gap xs (z :: zs)))
        (sub x z + nwSpec sub gap xs zs) := by
  rw [nwSpec]

/-! A border cell is its neighbour along the border plus a gap. -/

theorem nwSpec_cons_nil (sub : σ → σ → α) (gap : α) (x : σ) (xs : List σ) :
    nwSpec sub gap (x :: xs) [] = gap + nwSpec sub gap xs [] := by
  rw [nwSpec_nil_right, nwSpec_nil_right]; rfl

theorem nwSpec_nil_cons (sub : σ → σ → α) (gap : α) (z : σ) (zs : List σ) :
    nwSpec sub gap [] (z :: zs) = gap + nwSpec sub gap [] zs := by
  rw [nwSpec_nil_left, nwSpec_nil_left]; rfl

/-! ### the executable matrix -/

/-- cells `1 …` of the row of `xs` in the terms of the recurrence, scanning `ys` with the part `zs` of
`s2` already consumed (reversed): what `nwRowAux` produces -/
def nwRowTail (sub : σ → σ → α) (gap : α) (xs : List σ) : List σ → List σ → List α
  | _, [] => []
  | zs, y :: ys => nwSpec sub gap xs (y :: zs) :: nwRowTail sub gap xs (y :: zs) ys

theorem nwRowAux_eq (sub : σ → σ → α) (gap : α) (x : σ) (xs ys zs : List σ) :
    nwRowAux sub gap x ys (nwSpec sub gap xs zs :: nwRowTail sub gap xs zs ys) (nwSpec sub gap (x :: xs) zs) =
      nwRowTail sub gap (x :: xs) zs ys := by
  induction ys generalizing zs with
  | nil => rfl
  | cons y ys ih => simp only [nwRowTail, nwRowAux, ← nwSpec_cons, ih]

theorem nwRowTail_nil (sub : σ → σ → α) (gap : α) (ys zs : List σ) :
    nwRowTail sub gap [] zs ys = (List.range' (zs.length + 1) ys.length).map (borderVal gap) := by
  induction ys generalizing zs with
  | nil => rfl
  | cons y ys ih => simp [nwRowTail, nwSpec_nil_left, ih, List.range'_succ]

theorem nwRowOf_eq (sub : σ → σ → α) (gap : α) (s2 xs : List σ) :
    nwRowOf sub gap s2 xs = nwSpec sub gap xs [] :: nwRowTail sub gap xs [] s2 := by
  induction xs with
  | nil => simp [nwRowOf, nwRowTail_nil, nwSpec_nil_left, List.range_eq_range', List.range'_succ]
  | cons x xs ih =>
    rw [nwRowOf, ih, show borderVal gap (xs.length + 1) = nwSpec sub gap (x :: xs) [] from
      (nwSpec_nil_right sub gap (x :: xs)).symm, nwRowAux_eq]

theorem nwRowTail_get (sub : σ → σ → α) (gap : α) (xs : List σ) :
    ∀ (ys zs : List σ) (j : Nat), j ≤ ys.length →
      (nwSpec sub gap xs zs :: nwRowTail sub gap xs zs ys)[j]? = some (nwSpec sub gap xs ((ys.take j).reverse ++ zs))
  | _, _, 0, _ => by simp
  | y :: ys, zs, j + 1, h => by
    rw [nwRowTail, List.getElem?_cons_succ, nwRowTail_get sub gap xs ys (y :: zs) j (Nat.le_of_succ_le_succ h),
      List.take_succ_cons, List.reverse_cons, List.append_assoc, List.singleton_append]

/-- every cell of the executable matrix is the recurrence value of the two prefixes -/
theorem nwMatrix_get (sub : σ → σ → α) (gap : α) (s1 s2 : List σ) (i j : Nat) (hi : i ≤ s1.length)
    (hj : j ≤ s2.length) :
    ((nwMatrix sub gap s1 s2)[i]?.bind fun row => row[j]?) =
      some (nwSpec sub gap (s1.take i).reverse (s2.take j).reverse) := by
  simp only [nwMatrix, List.getElem?_map, List.getElem?_range (by omega : i < s1.length + 1), Option.map_some,
    Option.bind_some, nwRowOf_eq, nwRowTail_get _ _ _ _ _ _ hj, List.append_nil]

theorem suffix_reverse_eq (l xs : List σ) (h : xs <:+ l.reverse) : xs = (l.take xs.length).reverse := by
  have hp : xs.reverse <+: l := by simpa using List.reverse_prefix.mpr h
  rw [← xs.length_reverse, ← List.prefix_iff_eq_take.mp hp, List.reverse_reverse]

/-- the same cells as the traceback addresses them: by the suffixes of the reversed sequences -/
theorem nwMatrix_get_of_suffix (sub : σ → σ → α) (gap : α) (s1 s2 : List σ) {xs zs : List σ}
    (hx : xs <:+ s1.reverse) (hz : zs <:+ s2.reverse) :
    ((nwMatrix sub gap s1 s2)[xs.length]?.bind fun row => row[zs.length]?) = some (nwSpec sub gap xs zs) := by
  have hxl : xs.length ≤ s1.length := by simpa using hx.length_le
  have hzl : zs.length ≤ s2.length := by simpa using hz.length_le
  rw [nwMatrix_get sub gap s1 s2 _ _ hxl hzl, ← suffix_reverse_eq s1 xs hx, ← suffix_reverse_eq s2 zs hz]

end

/-! ### transposition, the three candidates of a cell, the traceback: `min` is that of a linear order -/

section
variable [Add α] [Zero α] [LinearOrder α]

/-- **Transposition**: swapping the two sequences and transposing the substitution function leaves
every cell of the recurrence unchanged (the gap cost is the same for both sequences in `dp.dp`). -/
theorem nwSpec_transpose (sub : σ → σ → α) (gap : α) (xs zs : List σ) :
    nwSpec (fun a b => sub b a) gap zs xs = nwSpec sub gap xs zs := by
  induction xs generalizing zs with
  | nil => rw [nwSpec_nil_left, nwSpec_nil_right]
  | cons x xs ihx =>
    induction zs with
    | nil => rw [nwSpec_nil_left, nwSpec_nil_right]
    | cons z zs ihz =>
      rw [nwSpec_cons, nwSpec_cons, ihz, ihx (z :: zs), ihx zs, min_comm (gap + _)]

/-! With the neighbour along the border as the single candidate of a border cell, every cell is at most
each of its candidates. -/

theorem nwSpec_le_up (sub : σ → σ → α) (gap : α) (x : σ) (xs zs : List σ) :
    nwSpec sub gap (x :: xs) zs ≤ gap + nwSpec sub gap xs zs := by
  cases zs with
  | nil => exact (nwSpec_cons_nil sub gap x xs).le
  | cons z zs => rw [nwSpec_cons]; exact (min_le_left _ _).trans (min_le_right _ _)

theorem nwSpec_le_left (sub : σ → σ → α) (gap : α) (xs : List σ) (z : σ) (zs : List σ) :
    nwSpec sub gap xs (z :: zs) ≤ gap + nwSpec sub gap xs zs := by
  rw [← nwSpec_transpose, ← nwSpec_transpose sub]
  exact nwSpec_le_up _ gap z zs xs

theorem nwSpec_le_diag (sub : σ → σ → α) (gap : α) (x : σ) (xs : List σ) (z : σ) (zs : List σ) :
    nwSpec sub gap (x :: xs) (z :: zs) ≤ sub x z + nwSpec sub gap xs zs := by
  rw [nwSpec_cons]; exact min_le_right _ _

/-- an interior cell equals one of its three candidates -/
theorem nwSpec_cons_eq_or (sub : σ → σ → α) (gap : α) (x : σ) (xs : List σ) (z : σ) (zs : List σ) :
    nwSpec sub gap (x :: xs) (z :: zs) = gap + nwSpec sub gap (x :: xs) zs ∨
    nwSpec sub gap (x :: xs) (z :: zs) = gap + nwSpec sub gap xs (z :: zs) ∨
    nwSpec sub gap (x :: xs) (z :: zs) = sub x z + nwSpec sub gap xs zs := by
  rw [nwSpec_cons]
  rcases min_choice (min (gap + nwSpec sub gap (x :: xs) zs) (gap + nwSpec sub gap xs (z :: zs)))
    (sub x z + nwSpec sub gap xs zs) with h | h
  · rcases min_choice (gap + nwSpec sub gap (x :: xs) zs) (gap + nwSpec sub gap xs (z :: zs)) with h' | h'
    · exact .inl (h.trans h')
    · exact .inr (.inl (h.trans h'))
  · exact .inr (.inr h)

variable [DecidableEq α]

/-- **Traceback**: when the matrix handed to `best_alignment` holds the recurrence values (for all pairs
of suffixes of the reversed sequences `s1`, `s2`, i.e. in all cells the walk can reach) and the
preference order lists all three directions, the walk never fails and the alignment it builds consists
of the two sequences (gaps removed) and scores exactly the value of the start cell. -/
theorem nwTraceback_spec (sub : σ → σ → α) (gap : α) (val : Nat → Nat → α) (order : List Dir)
    (hord : ∀ d : Dir, d ∈ order) (s1 s2 : List σ)
    (hval : ∀ xs zs, xs <:+ s1 → zs <:+ s2 → val xs.length zs.length = nwSpec sub gap xs zs)
    (xs zs : List σ) (hx : xs <:+ s1) (hz : zs <:+ s2) :
    ∃ cols, nwTraceback sub gap val order xs zs = some cols ∧ colsFst cols = xs ∧ colsSnd cols = zs ∧
      colsScore sub gap cols = nwSpec sub gap xs zs := by
  induction xs generalizing zs with
  | nil =>
    induction zs with
    | nil => exact ⟨[], by rw [nwTraceback], rfl, rfl, by rw [nwSpec_nil_left]; rfl⟩
    | cons z zs ih =>
      obtain ⟨cols, h1, h2, h3, h4⟩ := ih ((List.suffix_cons z zs).trans hz)
      exact ⟨.gap1 z :: cols, by rw [nwTraceback, h1]; rfl, h2, congrArg _ h3, by
        rw [colsScore, h4, nwSpec_nil_cons]⟩
  | cons x xs ihx =>
    have hx' := (List.suffix_cons x xs).trans hx
    induction zs with
    | nil =>
      obtain ⟨cols, h1, h2, h3, h4⟩ := ihx [] hx' hz
      exact ⟨.gap2 x :: cols, by rw [nwTraceback, h1]; rfl, congrArg _ h2, h3, by
        rw [colsScore, h4, nwSpec_cons_nil]⟩
    | cons z zs ihz =>
      have hz' := (List.suffix_cons z zs).trans hz
      have hv : val (xs.length + 1) (zs.length + 1) = _ := hval _ _ hx hz
      have hl : val (xs.length + 1) zs.length = _ := hval _ _ hx hz'
      have hu : val xs.length (zs.length + 1) = _ := hval _ _ hx' hz
      rw [nwTraceback]
      simp only [Nat.add_sub_cancel, hv, hl, hu, hval _ _ hx' hz']
      split <;> rename_i hfind
      · obtain ⟨cols, h1, h2, h3, h4⟩ := ihx zs hx' hz'
        exact ⟨.both x z :: cols, by rw [h1]; rfl, congrArg _ h2, congrArg _ h3, by
          rw [colsScore, h4, eq_of_beq (List.find?_some hfind :)]⟩
      · obtain ⟨cols, h1, h2, h3, h4⟩ := ihx (z :: zs) hx' hz
        exact ⟨.gap2 x :: cols, by rw [h1]; rfl, congrArg _ h2, h3, by
          rw [colsScore, h4, eq_of_beq (List.find?_some hfind :)]⟩
      · obtain ⟨cols, h1, h2, h3, h4⟩ := ihz hz'
        exact ⟨.gap1 z :: cols, by rw [h1]; rfl, h2, congrArg _ h3, by
          rw [colsScore, h4, eq_of_beq (List.find?_some hfind :)]⟩
      · -- the cell equals one of its candidates, so a listed direction is flagged
        have hno := fun d => List.find?_eq_none.mp hfind d (hord d)
        rcases nwSpec_cons_eq_or sub gap x xs z zs with h | h | h
        · exact absurd (by simpa using h) (hno .left)
        · exact absurd (by simpa using h) (hno .up)
        · exact absurd (by simpa using h) (hno .diag)

end

/-! ### alignments read in either direction

The model walks from the last cell back, `C17` states alignments in reading order. -/

theorem colsFst_append (a b : List (Col σ)) : colsFst (a ++ b) = colsFst a ++ colsFst b := by
  induction a with
  | nil => rfl
  | cons c rest ih => cases c <;> simp [colsFst, ih]

theorem colsSnd_append (a b : List (Col σ)) : colsSnd (a ++ b) = colsSnd a ++ colsSnd b := by
  induction a with
  | nil => rfl
  | cons c rest ih => cases c <;> simp [colsSnd, ih]

theorem colsFst_reverse (cols : List (Col σ)) : colsFst cols.reverse = (colsFst cols).reverse := by
  induction cols with
  | nil => rfl
  | cons c rest ih => rw [List.reverse_cons, colsFst_append, ih]; cases c <;> simp [colsFst]

theorem colsSnd_reverse (cols : List (Col σ)) : colsSnd cols.reverse = (colsSnd cols).reverse := by
  induction cols with
  | nil => rfl
  | cons c rest ih => rw [List.reverse_cons, colsSnd_append, ih]; cases c <;> simp [colsSnd]

section
variable [AddCommMonoid α]

theorem colsScore_append (sub : σ → σ → α) (gap : α) (a b : List (Col σ)) :
    colsScore sub gap (a ++ b) = colsScore sub gap a + colsScore sub gap b := by
  induction a with
  | nil => simp [colsScore]
  | cons c rest ih => cases c <;> simp [colsScore, ih, add_assoc]

theorem colsScore_reverse (sub : σ → σ → α) (gap : α) (cols : List (Col σ)) :
    colsScore sub gap cols.reverse = colsScore sub gap cols := by
  induction cols with
  | nil => rfl
  | cons c rest ih =>
    rw [List.reverse_cons, colsScore_append, ih]
    cases c <;> simp [colsScore, add_comm]

/-! ### optimality: addition is monotone -/

variable [LinearOrder α] [IsOrderedAddMonoid α]

/-- **Optimality (lower bound)**: no alignment of the two sequences scores below the recurrence value -/
theorem nwSpec_le_score (sub : σ → σ → α) (gap : α) (cols : List (Col σ)) :
    nwSpec sub gap (colsFst cols) (colsSnd cols) ≤ colsScore sub gap cols := by
  induction cols with
  | nil => simp [colsFst, colsSnd, colsScore, nwSpec_nil_left, borderVal]
  | cons col rest ih =>
    cases col with
    | both x y => exact (nwSpec_le_diag ..).trans (add_le_add_right ih _)
    | gap2 x => exact (nwSpec_le_up ..).trans (add_le_add_right ih _)
    | gap1 y => exact (nwSpec_le_left ..).trans (add_le_add_right ih _)

/-- the cost never exceeds that of the all-gaps alignment (delete all of `s1`, insert all of `s2`) -/
theorem nwSpec_le_all_gaps (sub : σ → σ → α) (gap : α) (xs zs : List σ) :
    nwSpec sub gap xs zs ≤ borderVal gap (xs.length + zs.length) := by
  induction xs with
  | nil => rw [nwSpec_nil_left, List.length_nil, Nat.zero_add]
  | cons x xs ih =>
    rw [List.length_cons, Nat.add_right_comm]
    exact (nwSpec_le_up ..).trans (add_le_add_right ih gap)

end

end Dtai
