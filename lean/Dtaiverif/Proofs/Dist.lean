/-
Proofs/Dist.lean — from cell-level facts to the value `dtw.distance` returns:
  * `dtwSpec_eq`            : `dtwSpec` is the minimum of the recurrence `D` over the end cells
  * `dtwSpec_le_path`, `dtwSpec_attained` : hence the optimum over admissible complete paths
  * `backtrack_complete`, `backtrack_last` : attained by the path traced back from an optimal end cell
  * `endMin_matP_rel`       : the value read off the pruned matrix is `Rel m`-related to `dtwSpec`
  * `distModel_eq_distSpec_of_le`, `distModel_top_of_gt`, `distModel_eq_spec`
-/
import Dtaiverif.Proofs.Prune
import Dtaiverif.Proofs.Path

namespace Dtai

variable {α : Type} [LinearOrderedAddCommMonoidWithTop α]

/-! ### end cells -/

/-- the candidate end cells as linear constraints -/
theorem mem_endCells_iff {β : Type} (g : Grid β) (p : Nat × Nat) : p ∈ endCells g ↔
    (p.1 = g.r ∧ p.2 ≤ g.c ∧ g.c ≤ p.2 + g.psi2e) ∨ (p.2 = g.c ∧ p.1 ≤ g.r ∧ g.r ≤ p.1 + g.psi1e) := by
  obtain ⟨I, J⟩ := p
  simp only [endCells, List.mem_append, List.mem_map, List.mem_range, Prod.mk.injEq]
  constructor
  · rintro (⟨k, hk, rfl, rfl⟩ | ⟨k, hk, rfl, rfl⟩) <;> omega
  · rintro (⟨rfl, h2, h3⟩ | ⟨rfl, h2, h3⟩)
    · exact Or.inl ⟨g.c - J, by omega, rfl, by omega⟩
    · exact Or.inr ⟨g.r - I, by omega, by omega, rfl⟩

theorem endCells_bound {β : Type} (g : Grid β) (p : Nat × Nat) (hp : p ∈ endCells g) :
    p.1 ≤ g.r ∧ p.2 ≤ g.c := by
  rw [mem_endCells_iff] at hp; omega

/-- the end cells off the border are the cells a complete path may end in -/
theorem mem_endCells {β : Type} (g : Grid β) (I J : Nat) : (I+1, J+1) ∈ endCells g ↔ g.EndOk (I, J) := by
  rw [mem_endCells_iff, Grid.EndOk]; omega

/-- non-degenerate psi: no empty alignment is possible -/
structure Grid.NonDegenerate (g : Grid α) : Prop where
  rpos : 1 ≤ g.r
  cpos : 1 ≤ g.c
  a : ¬ (g.r ≤ g.psi1e ∧ g.c ≤ g.psi2b)
  b : ¬ (g.c ≤ g.psi2e ∧ g.r ≤ g.psi1b)

/-- under non-degeneracy an end cell on the border is not a start cell -/
theorem D_endCell_border (g : Grid α) (hn : g.NonDegenerate) (p : Nat × Nat) (hb : p.1 = 0 ∨ p.2 = 0)
    (hp : p ∈ endCells g) : D g p.1 p.2 = ⊤ := by
  refine D_border_top g hb fun hs => ?_
  have := hn.rpos; have := hn.cpos; have := hn.a; have := hn.b
  rw [mem_endCells_iff] at hp
  unfold Grid.StartOk at hs
  omega

/-! ### the specified distance is the optimum over the admissible complete paths -/

theorem dtwSpec_eq (g : Grid α) : dtwSpec g = minList ((endCells g).map fun p => D g p.1 p.2) := by
  rw [dtwSpec, endMin]
  congr 1
  apply List.map_congr_left
  intro p hp
  obtain ⟨h1, h2⟩ := endCells_bound g p hp
  exact matU_cell g g.r p.1 p.2 h1 h2

/-- without psi-relaxation the distance is the value of the last cell -/
theorem dtwSpec_nopsi (g : Grid α) (h1 : g.psi1e = 0) (h2 : g.psi2e = 0) : dtwSpec g = D g g.r g.c := by
  rw [dtwSpec_eq]
  simp [endCells, h1, h2, minList_cons, minList_nil]

/-- an admissible *complete* path costs at least `dtwSpec` -/
theorem dtwSpec_le_path (g : Grid α) (path : List Cell) (q : Cell)
    (hv : g.ValidRev (q :: path)) (he : g.EndOk q) : dtwSpec g ≤ g.costRev (q :: path) := by
  rw [dtwSpec_eq]
  exact (minList_le_mem _ _ (List.mem_map_of_mem ((mem_endCells g q.1 q.2).mpr he))).trans
    (D_le_costRev g path q hv)

/-- `dtwSpec` is `⊤` or the cost of an admissible complete path -/
theorem dtwSpec_attained (g : Grid α) (h : g.NonNeg) (hn : g.NonDegenerate) :
    dtwSpec g = ⊤ ∨ ∃ (q : Cell) (path : List Cell), g.ValidRev (q :: path) ∧ g.EndOk q ∧
      g.costRev (q :: path) = dtwSpec g := by
  rw [dtwSpec_eq]
  rcases minList_choice ((endCells g).map fun p => D g p.1 p.2) with h1 | h1
  · exact Or.inl h1
  · obtain ⟨⟨I, J⟩, hp, hval⟩ := List.mem_map.mp h1
    rw [← hval]
    by_cases hb : I = 0 ∨ J = 0
    · exact Or.inl (D_endCell_border g hn (I, J) hb hp)
    · obtain ⟨I, rfl⟩ : ∃ I', I = I' + 1 := ⟨I - 1, by omega⟩
      obtain ⟨J, rfl⟩ : ∃ J', J = J' + 1 := ⟨J - 1, by omega⟩
      exact (D_attained g h _ I J rfl).imp_right fun ⟨path, hv, hc⟩ =>
        ⟨(I, J), path, hv, (mem_endCells g I J).mp hp, hc⟩

/-- started in an end cell that attains a finite `dtwSpec`, the trace-back of `dtw.best_path` is an
admissible complete path that costs `dtwSpec` -/
theorem backtrack_complete (g : Grid α) (h : g.NonNeg) (I J : Nat) (he : g.EndOk (I, J))
    (hopt : D g (I+1) (J+1) = dtwSpec g) (hfin : dtwSpec g ≠ ⊤) :
    ∃ rest, backtrack (D g) g.pen (I + J + 2) (I+1) (J+1) = (I, J) :: rest ∧
      g.ValidRev ((I, J) :: rest) ∧ g.EndOk (I, J) ∧ g.costRev ((I, J) :: rest) = dtwSpec g := by
  obtain ⟨rest, hbt, hv, hc⟩ := backtrack_valid g h I J (hopt ▸ hfin)
  exact ⟨rest, hbt, hv, he, hc.trans hopt⟩

/-- without psi-relaxation at the end that cell is the last one -/
theorem backtrack_last (g : Grid α) (h : g.NonNeg) (hr : 1 ≤ g.r) (hc : 1 ≤ g.c)
    (h1 : g.psi1e = 0) (h2 : g.psi2e = 0) (hfin : dtwSpec g ≠ ⊤) :
    ∃ rest, backtrack (D g) g.pen (g.r + g.c) g.r g.c = (g.r - 1, g.c - 1) :: rest ∧
      g.ValidRev ((g.r - 1, g.c - 1) :: rest) ∧ g.EndOk (g.r - 1, g.c - 1) ∧
      g.costRev ((g.r - 1, g.c - 1) :: rest) = dtwSpec g := by
  have hI : g.r - 1 + 1 = g.r := by omega
  have hJ : g.c - 1 + 1 = g.c := by omega
  have := backtrack_complete g h (g.r - 1) (g.c - 1) (Or.inl ⟨hI, by dsimp only; omega, by dsimp only; omega⟩)
    (by rw [hI, hJ, dtwSpec_nopsi g h1 h2]) hfin
  rwa [hI, hJ, show g.r - 1 + (g.c - 1) + 2 = g.r + g.c by omega] at this

/-! ### the value returned by the kernel with early abandoning -/

/-- **Soundness of early abandoning, for the distance.** The value read off the pruned matrix
over-estimates the optimum and equals it when the optimum is `≤ m`. -/
theorem endMin_matP_rel (g : Grid α) (h : g.NonNeg) (m : α) :
    Rel m (dtwSpec g) (endMin g (matP g m g.r)) := by
  rw [dtwSpec_eq, endMin]
  refine Rel.minList _ _ _ fun p hp => ?_
  obtain ⟨h1, h2⟩ := endCells_bound g p hp
  exact matP_rel g h m g.r p.1 p.2 h1 h2

theorem finalCheck_of_le (m d : α) (h : d ≤ m) : finalCheck m d = d :=
  if_neg fun hh => hh.2 h

theorem finalCheck_of_not_le (m d : α) (hm : ¬ m ≤ 0) (h : ¬ d ≤ m) : finalCheck m d = ⊤ :=
  if_pos ⟨hm, h⟩

/-- below the threshold — with the threshold switched off, or with a valid upper bound — the kernel
returns the specified value, whatever `max_length_diff`, with or without the final check -/
theorem distModel_eq_distSpec_of_le (g : Grid α) (h : g.NonNeg) (m : α) (mld : Option Nat) (chk : Bool)
    (hle : dtwSpec g ≤ m) : distModel g m mld chk = distSpec g mld := by
  have hv : (if chk = true then finalCheck m (endMin g (matP g m g.r)) else endMin g (matP g m g.r))
      = dtwSpec g := by
    rw [(endMin_matP_rel g h m).eq hle, finalCheck_of_le m _ hle, ite_self]
  unfold distModel distSpec
  simp only [hv]

theorem distModel_eq_of_le (g : Grid α) (h : g.NonNeg) (m : α) (chk : Bool) (hle : dtwSpec g ≤ m) :
    distModel g m none chk = dtwSpec g :=
  distModel_eq_distSpec_of_le g h m none chk hle

/-- above the (non-zero) threshold the result is infinite when the final check is applied -/
theorem distModel_top_of_gt (g : Grid α) (h : g.NonNeg) (m : α) (hm : ¬ m ≤ 0) (hgt : ¬ dtwSpec g ≤ m) :
    distModel g m none true = ⊤ :=
  finalCheck_of_not_le m _ hm fun hh => hgt ((endMin_matP_rel g h m).le.trans hh)

/-- with the threshold switched off the kernel returns the optimum over admissible paths -/
theorem distModel_eq_spec (g : Grid α) (h : g.NonNeg) (mld : Option Nat) (chk : Bool) :
    distModel g ⊤ mld chk = distSpec g mld :=
  distModel_eq_distSpec_of_le g h ⊤ mld chk le_top

end Dtai
