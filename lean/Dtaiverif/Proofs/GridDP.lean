/-
Proofs/GridDP.lean — the shared formal core (DESIGN §5):
  * `inBand_iff`, `ok_iff`, `isStep_iff` : band, admissibility and steps as linear constraints
  * `matU_cell`       : the executable unpruned matrix is the recurrence `D`
  * `D_start`, `D_border_top`, `D_succ_ok`, `D_succ_not_ok` : what `D` is on each kind of cell
  * `Grid.ValidRev.map`, `costRev_map` : admissible paths and their cost, carried along a map of cells
  * `D_le_costRev`    : every admissible path costs at least `D` at its end cell
(`D` is attained by an admissible path, or is `⊤`: `D_attained` in Proofs/Path.lean.)
Generic over any `LinearOrderedAddCommMonoidWithTop`.
-/
import Dtaiverif.Proofs.Basic
import Dtaiverif.Proofs.Scan

namespace Dtai

variable {α : Type} [LinearOrderedAddCommMonoidWithTop α]

/-! ### band and steps as linear constraints -/

theorem inBand_iff {β : Type} (g : Grid β) (i j : Nat) : g.inBand i j = true ↔
    i < j + g.window + (g.r - g.c) ∧ j < g.c ∧ j < i + (g.c - g.r) + g.window := by
  unfold Grid.inBand Grid.jStart Grid.jEnd
  simp only [Bool.and_eq_true, decide_eq_true_eq, Nat.sub_le_iff_le_add, Nat.lt_min, Nat.succ_le_iff]

theorem inBand_def {β : Type} (g : Grid β) (i j : Nat) :
    g.inBand i j = true ↔ g.jStart i ≤ j ∧ j < g.jEnd i := by
  simp [Grid.inBand]

theorem ok_iff (g : Grid α) (i j : Nat) :
    g.ok i j = true ↔ g.inBand i j = true ∧ g.cost i j ≤ g.maxStep := by
  simp [Grid.ok]

theorem Grid.ok_eq_inBand (g : Grid α) (h : g.maxStep = ⊤) (i j : Nat) : g.ok i j = g.inBand i j := by
  simp [Grid.ok, h]

theorem isStep_iff (p q : Cell) : IsStep p q ↔
    p.1 ≤ q.1 ∧ q.1 ≤ p.1 + 1 ∧ p.2 ≤ q.2 ∧ q.2 ≤ p.2 + 1 ∧ p.1 + p.2 < q.1 + q.2 := by
  unfold IsStep; omega

/-- start cells are closed downwards along the border -/
theorem Grid.StartOk.mono {β : Type} {g : Grid β} {p p' : Cell} (hs : g.StartOk p) (h1 : p'.1 ≤ p.1)
    (h2 : p'.2 ≤ p.2) : g.StartOk p' := by
  unfold Grid.StartOk at *; omega

/-! ### the executable unpruned matrix is the recurrence -/

theorem rowsU_eq (g : Grid α) : ∀ I, rowsU g I = (List.range (g.c+1)).map (D g I) := by
  intro I
  induction I with
  | zero => simp [rowsU, row0, D]
  | succ I ih =>
    have := nextRow_eq (g.cellVal I) (D g I) (D g (I+1)) g.c (fun j => by rw [D])
    rwa [D, ← ih] at this

theorem matU_eq (g : Grid α) (n : Nat) : matU g n = (List.range (n+1)).map (rowsU g) := by
  have : ∀ n, rowsUpTo g n = ((List.range (n+1)).map (rowsU g)).reverse := by
    intro n
    induction n with
    | zero => rfl
    | succ n ih => rw [rowsUpTo, ih, List.range_succ (n := n+1)]; simp [List.range_succ, rowsU]
  rw [matU, this, List.reverse_reverse]

theorem matU_cell (g : Grid α) (n I J : Nat) (hI : I ≤ n) (hJ : J ≤ g.c) :
    cellOf (matU g n) I J = D g I J := by
  rw [cellOf, matU_eq, getD_map_range _ (Nat.lt_succ_of_le hI), rowsU_eq,
    getT_map_range _ (Nat.lt_succ_of_le hJ)]

/-! ### non-negativity -/

structure Grid.NonNeg (g : Grid α) : Prop where
  cost : ∀ i j, 0 ≤ g.cost i j
  pen : 0 ≤ g.pen

theorem step_nonneg (g : Grid α) (h : g.NonNeg) (i j : Nat) {a b c : α}
    (ha : 0 ≤ a) (hb : 0 ≤ b) (hc : 0 ≤ c) : 0 ≤ g.step i j a b c :=
  add_nonneg (h.cost i j) (le_min ha (le_min (add_nonneg hb h.pen) (add_nonneg hc h.pen)))

theorem D_nonneg (g : Grid α) (h : g.NonNeg) : ∀ I J, 0 ≤ D g I J := by
  intro I J
  fun_induction D g I J with
  | case1 J => rw [Grid.border0]; split <;> simp
  | case2 I => rw [Grid.borderCol]; split <;> simp
  | case3 I J ih1 ih2 ih3 =>
    rw [Grid.cellVal]
    split
    · exact step_nonneg g h I J ih1 ih2 ih3
    · simp

/-! ### what `D` is on each kind of cell -/

/-- a cell in which a path may start (they lie on the border) holds `0` … -/
theorem D_start (g : Grid α) (p : Cell) (hs : g.StartOk p) : D g p.1 p.2 = 0 := by
  obtain ⟨i, j⟩ := p
  rcases hs with ⟨h1, h2⟩ | ⟨h1, h2⟩
  · simp only at h1 h2; subst h1; simp [D, Grid.border0, h2]
  · simp only at h1 h2; subst h1
    cases i with
    | zero => simp [D, Grid.border0]
    | succ i => simp [D, Grid.borderCol, h2]

/-- … and every other border cell holds `⊤` -/
theorem D_border_top (g : Grid α) {I J : Nat} (hb : I = 0 ∨ J = 0) (hs : ¬ g.StartOk (I, J)) :
    D g I J = ⊤ := by
  cases I with
  | zero => rw [D, Grid.border0, if_neg fun hJ => hs (Or.inl ⟨rfl, hJ⟩)]; rfl
  | succ I =>
    obtain rfl : J = 0 := by simpa using hb
    rw [D, Grid.borderCol, if_neg fun hI => hs (Or.inr ⟨rfl, hI⟩)]; rfl

theorem D_succ_ok (g : Grid α) (I J : Nat) (hok : g.ok I J = true) :
    D g (I+1) (J+1) = g.cost I J + min (D g I J) (min (D g I (J+1) + g.pen) (D g (I+1) J + g.pen)) := by
  rw [D, Grid.cellVal, if_pos hok]; rfl

theorem D_succ_not_ok (g : Grid α) (I J : Nat) (hok : ¬ g.ok I J = true) :
    D g (I+1) (J+1) = ⊤ := by
  rw [D, Grid.cellVal, if_neg hok]; rfl

theorem D_out_of_band (g : Grid α) (i j : Nat) (h : j < g.jStart i ∨ g.jEnd i ≤ j) : D g (i+1) (j+1) = ⊤ :=
  D_succ_not_ok g i j fun hok => by have := (inBand_def g i j).mp ((ok_iff g i j).mp hok).1; omega

/-! ### admissible paths and their cost -/

theorem stepPen_diag (g : Grid α) (i j : Nat) : g.stepPen (i, j) (i+1, j+1) = 0 := if_pos ⟨rfl, rfl⟩

theorem stepPen_up (g : Grid α) (i j : Nat) : g.stepPen (i, j) (i+1, j) = g.pen := if_neg (by simp)

theorem stepPen_left (g : Grid α) (i j : Nat) : g.stepPen (i, j) (i, j+1) = g.pen := if_neg (by simp)

theorem stepPen_nonneg (g : Grid α) (h : g.NonNeg) (p q : Cell) : 0 ≤ g.stepPen p q := by
  unfold Grid.stepPen; split
  · exact le_rfl
  · exact h.pen

/-- the penalty of a step depends on the penalty setting and on whether the step is diagonal -/
theorem stepPen_congr {g g' : Grid α} (hpen : g'.pen = g.pen) {p q p' q' : Cell}
    (h : (q'.1 = p'.1 + 1 ∧ q'.2 = p'.2 + 1) ↔ (q.1 = p.1 + 1 ∧ q.2 = p.2 + 1)) :
    g'.stepPen p' q' = g.stepPen p q := by
  unfold Grid.stepPen; simp only [hpen, h]

/-- **Transport of a path along a map of cells.** Let `φ`, on a set `S` of cells containing the path,
preserve steps and send admissible cells of `g` to admissible cells of `g'`, and let it send the cell the
path starts in to a start cell of `g'`: then the image of the path is an admissible path of `g'`. -/
theorem Grid.ValidRev.map {g g' : Grid α} {φ : Cell → Cell} {S : Cell → Prop}
    (hstep : ∀ p q, S p → S q → IsStep p q → IsStep (φ p) (φ q))
    (hok : ∀ p, S p → g.ok p.1 p.2 = true → g'.ok (φ p).1 (φ p).2 = true) :
    ∀ {path}, g.ValidRev path → (∀ p ∈ path, S p) →
      (∀ s, path.getLast? = some s → g.StartOk s → g'.StartOk (φ s)) → g'.ValidRev (path.map φ)
  | [], h, _, _ => h
  | [p], h, hS, hs => ⟨hs p rfl h.1, hok p (hS p List.mem_cons_self) h.2⟩
  | q :: p :: rest, h, hS, hs =>
    ⟨hstep p q (hS p (by simp)) (hS q (by simp)) h.1, hok q (hS q (by simp)) h.2.1,
      h.2.2.map hstep hok (fun x hx => hS x (List.mem_cons_of_mem _ hx)) fun s hl => hs s (by simpa using hl)⟩

/-- … and the image has the cost of the path if `φ`, on `S`, preserves point costs and step penalties -/
theorem costRev_map {g g' : Grid α} {φ : Cell → Cell} {S : Cell → Prop} {path : List Cell}
    (hcost : ∀ p, S p → g'.cost (φ p).1 (φ p).2 = g.cost p.1 p.2)
    (hpen : ∀ p q, S p → S q → g'.stepPen (φ p) (φ q) = g.stepPen p q)
    (hS : ∀ p ∈ path, S p) : g'.costRev (path.map φ) = g.costRev path :=
  match path, hS with
  | [], _ => rfl
  | [p], hS => hcost p (hS p List.mem_cons_self)
  | q :: p :: rest, hS => by
    have ih := costRev_map (path := p :: rest) hcost hpen fun x hx => hS x (List.mem_cons_of_mem _ hx)
    rw [List.map_cons] at ih
    rw [List.map_cons, List.map_cons, Grid.costRev, Grid.costRev, ih, hcost q (hS q (by simp)),
      hpen p q (hS p (by simp)) (hS q (by simp))]

/-- admissibility of a path depends on the grid only through its start cells and `ok` -/
theorem Grid.ValidRev.mono {g g' : Grid α} {path : List Cell} (h : g.ValidRev path)
    (hs : ∀ p, g.StartOk p → g'.StartOk p) (hok : ∀ i j, g.ok i j = true → g'.ok i j = true) :
    g'.ValidRev path := by
  simpa using h.map (φ := id) (S := fun _ => True) (fun _ _ _ _ h => h) (fun p _ => hok p.1 p.2)
    (fun _ _ => trivial) fun s _ => hs s

/-- the cells of an admissible path lie weakly left of and above its end cell … -/
theorem validRev_rows (g : Grid α) : ∀ (path : List Cell) (q : Cell), g.ValidRev (q :: path) →
    ∀ p ∈ q :: path, p.1 ≤ q.1 ∧ p.2 ≤ q.2 := by
  intro path
  induction path with
  | nil => intro q _ p hp; simp at hp; subst hp; exact ⟨le_rfl, le_rfl⟩
  | cons x rest ih =>
    intro q hv p hp
    obtain ⟨hstep, _, hrest⟩ := hv
    rcases List.mem_cons.mp hp with rfl | hm
    · exact ⟨le_rfl, le_rfl⟩
    · have := ih x hrest p hm
      have := (isStep_iff x q).mp hstep
      omega

/-- … and weakly right of and below the start cell it begins in -/
theorem validRev_start (g : Grid α) : ∀ (path : List Cell) (q : Cell), g.ValidRev (q :: path) →
    ∃ s, (q :: path).getLast? = some s ∧ g.StartOk s ∧ ∀ p ∈ q :: path, s.1 ≤ p.1 ∧ s.2 ≤ p.2 := by
  intro path
  induction path with
  | nil => exact fun q hv => ⟨q, rfl, hv.1, by simp⟩
  | cons x rest ih =>
    intro q ⟨hstep, _, hrest⟩
    obtain ⟨s, hlast, hs, hle⟩ := ih x hrest
    refine ⟨s, by simpa using hlast, hs, fun p hp => ?_⟩
    rcases List.mem_cons.mp hp with rfl | hm
    · have := hle x List.mem_cons_self
      have := (isStep_iff x p).mp hstep
      omega
    · exact hle p hm

/-- a warping path has at most `len1 + len2 - 1` cells: each step increases `i + j` -/
theorem validRev_length (g : Grid α) : ∀ (path : List Cell) (q : Cell), g.ValidRev (q :: path) →
    (q :: path).length ≤ q.1 + q.2 + 1 := by
  intro path
  induction path with
  | nil => intro q _; simp
  | cons p rest ih =>
    intro q hv
    obtain ⟨hstep, _, hrest⟩ := hv
    have := ih p hrest
    have := (isStep_iff p q).mp hstep
    simp only [List.length_cons] at *
    omega

/-- penalties along a path (end first): `pen` per non-diagonal step -/
def penSum (pen : α) : List Cell → α
  | q :: p :: rest => penSum pen (p :: rest) + (if q.1 = p.1 + 1 ∧ q.2 = p.2 + 1 then 0 else pen)
  | _ => 0

/-- the cost of a path is the sum of its point costs plus its penalties -/
theorem Grid.costRev_eq (g : Grid α) :
    ∀ path, g.costRev path = (path.map fun q => g.cost q.1 q.2).sum + penSum g.pen path
  | [] => by simp [Grid.costRev, penSum]
  | [_] => by simp [Grid.costRev, penSum]
  | q :: p :: rest => by
    simp only [Grid.costRev, Grid.costRev_eq g (p :: rest), penSum, Grid.stepPen, List.map_cons, List.sum_cons,
      add_assoc]

/-! ### lower bound -/

/-- the recurrence is below each of the three predecessors (`D_pred` in Proofs/Path.lean: and equal to one) -/
theorem D_step_le (g : Grid α) {p q : Cell} (hstep : IsStep p q) (hok : g.ok q.1 q.2 = true) :
    D g (q.1+1) (q.2+1) ≤ g.cost q.1 q.2 + (D g (p.1+1) (p.2+1) + g.stepPen p q) := by
  obtain ⟨p1, p2⟩ := p
  obtain ⟨q1, q2⟩ := q
  rw [D_succ_ok g _ _ hok]
  apply add_le_add le_rfl
  simp only [IsStep] at hstep
  rcases hstep with ⟨rfl, rfl⟩ | ⟨rfl, rfl⟩ | ⟨rfl, rfl⟩
  · rw [stepPen_diag, add_zero]; exact min_le_left _ _
  · rw [stepPen_up]; exact (min_le_right _ _).trans (min_le_left _ _)
  · rw [stepPen_left]; exact (min_le_right _ _).trans (min_le_right _ _)

/-- Every admissible (partial) path costs at least `D` at its end cell. -/
theorem D_le_costRev (g : Grid α) :
    ∀ (path : List Cell) (q : Cell), g.ValidRev (q :: path) →
      D g (q.1+1) (q.2+1) ≤ g.costRev (q :: path) := by
  intro path
  induction path with
  | nil =>
    intro q ⟨hs, hok⟩
    rw [D_succ_ok g _ _ hok, Grid.costRev]
    calc g.cost q.1 q.2 + min (D g q.1 q.2) _ ≤ g.cost q.1 q.2 + D g q.1 q.2 :=
          add_le_add le_rfl (min_le_left _ _)
      _ = g.cost q.1 q.2 := by rw [D_start g q hs, add_zero]
  | cons p rest ih =>
    intro q ⟨hstep, hok, hrest⟩
    exact (D_step_le g hstep hok).trans (add_le_add le_rfl (add_le_add (ih p hrest) le_rfl))

end Dtai
