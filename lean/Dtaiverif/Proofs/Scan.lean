/-
Proofs/Scan.lean — the row scans of Model/Dtw.lean, for any cell type and without instances, so that other
kernels with scans of the same shape can use them: the stateless scan `rowFrom`/`nextRow` computes a
recurrence (`nextRow_eq`); the stateful scan `scanSt` carries an invariant along the row (`scanSt_forall₂`,
`scanSt_row`).
A row is related to its column indices by `List.Forall₂`, which the scans walk in step with the row.
-/
import Mathlib.Data.List.Forall2
import Dtaiverif.Model.Dtw

namespace Dtai

variable {α σ : Type}

/-! ### the stateless scan -/

theorem rowFrom_map_range' (f : Nat → α → α → α → α) (a b : Nat → α)
    (hb : ∀ j, b (j+1) = f j (a j) (a (j+1)) (b j)) :
    ∀ n j, rowFrom f j (b j) ((List.range' j (n+1)).map a) = (List.range' (j+1) n).map b
  | 0, _ => rfl
  | n+1, j => by
    have ih := rowFrom_map_range' f a b hb n (j+1)
    rw [List.range'_succ, List.map_cons] at ih
    rw [List.range'_succ, List.range'_succ, List.map_cons, List.map_cons, List.map_cons, rowFrom, ← hb, ih]

/-- a row computed from row `a` by the recurrence `b (j+1) = f j (a j) (a (j+1)) (b j)` is row `b` -/
theorem nextRow_eq (f : Nat → α → α → α → α) (a b : Nat → α) (n : Nat)
    (hb : ∀ j, b (j+1) = f j (a j) (a (j+1)) (b j)) :
    nextRow f (b 0) ((List.range (n+1)).map a) = (List.range (n+1)).map b := by
  rw [nextRow, List.range_eq_range', rowFrom_map_range' f a b hb, List.range'_succ, List.map_cons]

/-! ### the scan with a carried state -/

/-- **Row scan, by invariant.** Suppose a step from a state with `Inv j` that reads cells with `P j`,
`P (j+1)` writes a cell with `Q (j+1)` and leaves a state with `Inv (j+1)`. Then the scan of a row that
is `P` in columns `j … j+n`, from a state with `Inv j`, writes a row that is `Q` in columns `j+1 … j+n`
and ends in a state with `Inv (j+n)`. -/
theorem scanSt_forall₂ (f : Nat → σ → α → α → α × σ) (P Q : Nat → α → Prop) (Inv : Nat → σ → Prop)
    (hstep : ∀ j st d u, Inv j st → P j d → P (j+1) u →
      Q (j+1) (f j st d u).1 ∧ Inv (j+1) (f j st d u).2) :
    ∀ (n : Nat) (prev : List α) (j : Nat) (st : σ), Inv j st →
      List.Forall₂ P (List.range' j (n+1)) prev →
      List.Forall₂ Q (List.range' (j+1) n) (scanSt f j st prev).1 ∧ Inv (j+n) (scanSt f j st prev).2
  | 0, prev, j, st, hinv, hprev => by
    obtain ⟨d, _, -, hnil, rfl⟩ := List.forall₂_cons_left_iff.mp hprev
    obtain rfl := List.forall₂_nil_left_iff.mp hnil
    exact ⟨.nil, hinv⟩
  | n+1, prev, j, st, hinv, hprev => by
    obtain ⟨d, tail, hd, htail, rfl⟩ := List.forall₂_cons_left_iff.mp hprev
    obtain ⟨u, rest, hu, -, rfl⟩ := List.forall₂_cons_left_iff.mp htail
    obtain ⟨hq, hinv'⟩ := hstep j st d u hinv hd hu
    obtain ⟨hrow, hfin⟩ := scanSt_forall₂ f P Q Inv hstep n (u :: rest) (j+1) _ hinv' htail
    exact ⟨.cons hq hrow, by rwa [Nat.add_right_comm] at hfin⟩

/-- a whole row: the scan starts in column `0`, and the first cell of the new row is supplied from outside -/
theorem scanSt_row (f : Nat → σ → α → α → α × σ) (P Q : Nat → α → Prop) (Inv : Nat → σ → Prop)
    (hstep : ∀ j st d u, Inv j st → P j d → P (j+1) u →
      Q (j+1) (f j st d u).1 ∧ Inv (j+1) (f j st d u).2)
    (n : Nat) (prev : List α) (first : α) (st : σ) (hfirst : Q 0 first) (hinv : Inv 0 st)
    (hprev : List.Forall₂ P (List.range (n+1)) prev) :
    List.Forall₂ Q (List.range (n+1)) (first :: (scanSt f 0 st prev).1) ∧ Inv n (scanSt f 0 st prev).2 := by
  rw [List.range_eq_range'] at hprev ⊢
  obtain ⟨hrow, hfin⟩ := scanSt_forall₂ f P Q Inv hstep n prev 0 st hinv hprev
  exact ⟨List.range'_succ ▸ .cons hfirst hrow, Nat.zero_add n ▸ hfin⟩

end Dtai
