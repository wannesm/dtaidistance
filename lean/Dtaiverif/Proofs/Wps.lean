/-
Proofs/Wps.lean — facts about `warping_paths`: shape of the matrix and agreement of the returned
distance with the distance-only routine.
-/
import Dtaiverif.Proofs.Dist

namespace Dtai

variable {α : Type} [LinearOrderedAddCommMonoidWithTop α]

theorem argminFirst_snd (l : List α) : (argminFirst l).2 = minList l := by
  induction l with
  | nil => rfl
  | cons x xs ih =>
    rw [argminFirst, minList_cons, ← ih]
    by_cases hx : xs.isEmpty = true
    · obtain rfl : xs = [] := List.isEmpty_iff.mp hx
      simp [argminFirst]
    · by_cases hle : x ≤ (argminFirst xs).2
      · simp [hx, hle]
      · simp [hx, hle, min_eq_right (le_of_not_ge hle)]

/-! ### shape -/

/-- the matrix `warping_paths` returns is the pruned matrix, whichever end cell is selected -/
theorem wpsModel_mat (g : Grid α) (m : α) : (wpsModel g m).mat = matP g m g.r := by
  unfold wpsModel; simp only [apply_ite WpsOut.mat, ite_self]

theorem matP_length (g : Grid α) (m : α) (n : Nat) : (matP g m n).length = n + 1 := by
  rw [matP_eq]; simp

theorem matP_row_length (g : Grid α) (h : g.NonNeg) (m : α) (n I : Nat) (hI : I ≤ n) :
    ((matP g m n).getD I []).length = g.c + 1 := by
  rw [matP_eq, getD_map_range _ (Nat.lt_succ_of_le hI), ← (matPAux_spec g h m I).1.length_eq, List.length_range]

/-! ### the distance returned with the matrix -/

theorem cellOf_matP_top (g : Grid α) (h : g.NonNeg) (m : α) {n I J : Nat} (hI : I ≤ n) (hJ : J ≤ g.c)
    (hD : D g I J = ⊤) : cellOf (matP g m n) I J = ⊤ :=
  top_le_iff.mp (hD ▸ (matP_rel g h m n I J hI hJ).le)

/-- minimum of `f` over the slice `[0, min n (psi+1))` that `warping_paths` searches in the last row / column
(`f k` = the cell `k` places before the corner, `n` = length of that row / column) -/
def sliceMin (f : Nat → α) (n psi : Nat) : α := minList ((List.range (min n (psi + 1))).map f)

/-- the slice loses nothing against the candidates `0..psi` of `distance` (`psi ≤ n`): they differ only for
`psi = n`, in a candidate that is `⊤` -/
theorem minList_eq_sliceMin (f : Nat → α) (n psi : Nat) (hpsi : psi ≤ n) (htop : psi = n → f n = ⊤) :
    minList ((List.range (psi + 1)).map f) = sliceMin f n psi := by
  unfold sliceMin
  rcases Nat.lt_or_ge psi n with hlt | hge
  · rw [Nat.min_eq_right (by omega)]
  · obtain rfl : psi = n := by omega
    rw [Nat.min_eq_left (by omega), List.range_succ, List.map_append, minList_append]
    simp [minList_cons, minList_nil, htop rfl]

/-- the slice is non-empty and starts with the corner cell … -/
theorem sliceMin_le (f : Nat → α) {n : Nat} (psi : Nat) (hn : 1 ≤ n) : sliceMin f n psi ≤ f 0 :=
  minList_le_mem _ _ (List.mem_map.mpr ⟨0, List.mem_range.mpr (by omega), rfl⟩)

/-- … and without relaxation it is the corner cell -/
theorem sliceMin_zero (f : Nat → α) {n : Nat} (hn : 1 ≤ n) : sliceMin f n 0 = f 0 := by
  rw [sliceMin, Nat.min_eq_right hn]; simp [minList_cons, minList_nil]

theorem if_lt_eq_min (a b : α) : (if a ≤ b ∧ ¬ b ≤ a then a else b) = min a b := by
  by_cases h : a ≤ b
  · by_cases h2 : b ≤ a
    · simp [le_antisymm h h2]
    · simp [h, h2]
  · simp [h, min_eq_right (le_of_not_ge h)]

theorem min_ite_top {p q : Prop} [Decidable p] [Decidable q] (x y : α) (hpq : p ∨ q)
    (hp : ¬ p → y ≤ x) (hq : ¬ q → x ≤ y) :
    min (if p then x else ⊤) (if q then y else ⊤) = min x y := by
  by_cases h1 : p <;> by_cases h2 : q <;> simp_all

/-- the distance field of `warping_paths`: the corner cell without relaxation at the end, else the smaller of
the minima of the two slices, a side without relaxation counting as `⊤` -/
theorem wpsModel_d_eq (g : Grid α) (m : α) :
    (wpsModel g m).d =
      if g.psi1e = 0 ∧ g.psi2e = 0 then cellOf (matP g m g.r) g.r g.c
      else min
        (if g.psi1e ≠ 0 then sliceMin (fun k => cellOf (matP g m g.r) (g.r - k) g.c) g.r g.psi1e else ⊤)
        (if g.psi2e ≠ 0 then sliceMin (fun k => cellOf (matP g m g.r) g.r (g.c - k)) g.c g.psi2e else ⊤) := by
  unfold wpsModel
  simp only []
  split
  · rfl
  · rw [apply_ite WpsOut.d, if_lt_eq_min, apply_ite Prod.snd, apply_ite Prod.snd, argminFirst_snd,
      argminFirst_snd]
    rfl

/-- The distance returned by `warping_paths` (before the final threshold check) is the value the
distance-only routine derives from the same matrix. -/
theorem wpsModel_d (g : Grid α) (h : g.NonNeg) (hn : g.NonDegenerate) (m : α)
    (hp1 : g.psi1e ≤ g.r) (hp2 : g.psi2e ≤ g.c) :
    (wpsModel g m).d = endMin g (matP g m g.r) := by
  have hr := hn.rpos
  have hc := hn.cpos
  -- the candidates of `endMin`, cut to the slices `warping_paths` searches
  have hsplit : endMin g (matP g m g.r) =
      min (sliceMin (fun k => cellOf (matP g m g.r) (g.r - k) g.c) g.r g.psi1e)
          (sliceMin (fun k => cellOf (matP g m g.r) g.r (g.c - k)) g.c g.psi2e) := by
    rw [endMin, endCells, List.map_append, minList_append, List.map_map, List.map_map, min_comm]
    congr 1
    · refine minList_eq_sliceMin _ g.r g.psi1e hp1 fun he =>
        cellOf_matP_top g h m (I := g.r - g.r) (J := g.c) (by omega) le_rfl ?_
      exact D_endCell_border g hn (g.r - g.r, g.c) (Or.inl (Nat.sub_self _))
        ((mem_endCells_iff g _).mpr (Or.inr ⟨rfl, by omega, by omega⟩))
    · refine minList_eq_sliceMin _ g.c g.psi2e hp2 fun he =>
        cellOf_matP_top g h m (I := g.r) (J := g.c - g.c) le_rfl (by omega) ?_
      exact D_endCell_border g hn (g.r, g.c - g.c) (Or.inr (Nat.sub_self _))
        ((mem_endCells_iff g _).mpr (Or.inl ⟨rfl, by omega, by omega⟩))
  rw [hsplit, wpsModel_d_eq]
  split
  · rename_i h0
    rw [h0.1, h0.2, sliceMin_zero _ hr, sliceMin_zero _ hc, Nat.sub_zero, Nat.sub_zero, min_self]
  · -- a side without relaxation counts as `⊤` here and is the corner cell there: the other side is below it
    rename_i h0
    refine min_ite_top _ _ (by omega) (fun h1 => ?_) (fun h2 => ?_)
    · rw [not_not.mp h1, sliceMin_zero _ hr]
      exact sliceMin_le (fun k => cellOf (matP g m g.r) g.r (g.c - k)) _ hc
    · rw [not_not.mp h2, sliceMin_zero _ hc]
      exact sliceMin_le (fun k => cellOf (matP g m g.r) (g.r - k) g.c) _ hr

end Dtai
