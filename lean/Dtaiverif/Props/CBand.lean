/-
Props/CBand.lean — the integer control state of the C kernels, as re-translated from /repo's `dd_dtw.c`
on every run (`Generated/CBand.lean`, by `translate/c_band.py`: a program slice of each function on its
`idx_t` variables, in single-assignment form), against the model.

* `lb_keogh`, `lb_keogh_euclidean`: the range of `s2` whose envelope is used in row `i` is the range of
  the model (`lbKeoghTerms`), which is the DTW band of that row — the fact `lb ≤ dtw` (C09) rests on;
* `dtw_distance` and its three variants: `length`, the band `[maxj, minj)` (with the pruning adjustment
  `max … sc`), and the buffer offsets `skip` / `skipp` along the whole run of the row loop are the
  functions of `Model/Rolling.lean` for which C08 proves that every access stays inside the buffer, and
  the band is the band of the DTW model (`Grid.jStart/jEnd` with the C settings).

The theorems are about the *translated* functions; when the C statements change, the functions change with
them and the proofs are re-checked against what the code says now.
-/
import Dtaiverif.Generated.CBand
import Dtaiverif.Generated.PyBand
import Dtaiverif.Proofs.Rolling
import Dtaiverif.Proofs.Compact
import Dtaiverif.Model.Bounds
import Dtaiverif.Model.Dtw

namespace Dtai
open Gen.CBand

/-- the window the kernels work with: `0` (not given) means `max l1 l2` -/
def cEffWindow (l1 l2 w : Nat) : Nat := if w = 0 then max l1 l2 else w

/-- the range of `s2` whose envelope row `i` of LB_Keogh is compared with — as in `lbKeoghTerms` -/
def lbRange (r c window i : Nat) : Nat × Nat := (i - ((r - c) + window - 1), min c (i + (c - r) + window))

/-- the model's LB_Keogh really uses `lbRange` -/
theorem lbKeoghTerms_range (dist : Int → Int → Nat) (s1 s2 : Array Int) (r c window : Nat) :
    lbKeoghTerms dist s1 s2 r c window = (List.range r).map fun i =>
      let seg := (List.range ((lbRange r c window i).2 - (lbRange r c window i).1)).map
        fun k => s2.getD ((lbRange r c window i).1 + k) 0
      match seg with
      | [] => 0
      | x :: xs =>
        let ui := xs.foldl max x
        let li := xs.foldl min x
        let ci := s1.getD i 0
        if ci > ui then dist ci ui else if ci < li then dist ci li else 0 := rfl

/-! ### reading `ℕ` in `ℤ`

The translated functions compute in `Int` what the model computes in `Nat`. `+`, `*`, `min`, `max` and `if` commute
with the cast, so a statement of the source built from these is the model's equation read in `ℤ`, as it stands.
A subtraction is exact where the source guards it (a test in C, `max(0, ·)` in Python), which is what the
model's truncated subtraction amounts to; that is linear arithmetic and left to `omega`. -/

theorem natCast_min (a b : Nat) : ((min a b : Nat) : Int) = min (a : Int) b := by omega

theorem natCast_max (a b : Nat) : ((max a b : Nat) : Int) = max (a : Int) b := by omega

/-- the C idiom `x * (test)` -/
theorem mul_test (x : Int) (c : Prop) [Decidable c] : x * (if c then 1 else 0) = if c then x else 0 := by
  split <;> simp

theorem cEffWindow_cast (l1 l2 w : Nat) :
    (if (w : Int) = 0 then max (l1 : Int) (l2 : Int) else (w : Int)) = ((cEffWindow l1 l2 w : Nat) : Int) := by
  unfold cEffWindow; split_ifs <;> omega

theorem CBand_lb_keogh (l1 l2 w i : Nat) (hw : 1 ≤ cEffWindow l1 l2 w) :
    let e := lb_keogh_row { lb_keogh_pre { l1 := l1, l2 := l2, settings_window := w } with i := i }
    e.imin = ((lbRange l1 l2 (cEffWindow l1 l2 w) i).1 : Int) ∧
    e.imax = ((lbRange l1 l2 (cEffWindow l1 l2 w) i).2 : Int) := by
  simp only [lb_keogh_row, lb_keogh_pre, lbRange, cEffWindow_cast]
  generalize cEffWindow l1 l2 w = W at *
  constructor <;> omega

/-- `lb_keogh_euclidean` has the integer slice of `lb_keogh`, statement for statement -/
theorem CBand_lb_keogh_euclidean (l1 l2 w i : Nat) (hw : 1 ≤ cEffWindow l1 l2 w) :
    let e := lb_keogh_euclidean_row { lb_keogh_euclidean_pre { l1 := l1, l2 := l2, settings_window := w } with i := i }
    e.imin = ((lbRange l1 l2 (cEffWindow l1 l2 w) i).1 : Int) ∧
    e.imax = ((lbRange l1 l2 (cEffWindow l1 l2 w) i).2 : Int) :=
  CBand_lb_keogh l1 l2 w i hw

/-- the pure-Python `lb_keogh` (translated by `translate/py_band.py`) uses the same range -/
theorem PyBand_lb_keogh (r c w i : Nat) (hw : 1 ≤ w) :
    let e0 : Gen.PyBand.Env := { i := i, r := r, c := c, window := w }
    let e : Gen.PyBand.Env := { e0 with imin_diff := Gen.PyBand.lb_keogh_imin_diff_0 e0,
                                        imax_diff := Gen.PyBand.lb_keogh_imax_diff_0 e0 }
    Gen.PyBand.lb_keogh_imin_0 e = ((lbRange r c w i).1 : Int) ∧ Gen.PyBand.lb_keogh_imax_0 e = ((lbRange r c w i).2 : Int) := by
  simp only [Gen.PyBand.lb_keogh_imin_0, Gen.PyBand.lb_keogh_imax_0, Gen.PyBand.lb_keogh_imin_diff_0,
    Gen.PyBand.lb_keogh_imax_diff_0, lbRange]
  constructor <;> omega

/-! ### `dtw_distance` and its variants: the whole run of the row loop -/

/-- the part of the state that the row loop leaves unchanged, as set up before the loop -/
structure CInv (p : Roll) (e : CEnv) : Prop where
  l1 : e.l1 = p.l1
  l2 : e.l2 = p.l2
  len : e.length = p.length
  dlw : e.dl_window = p.dlWindow
  ldw : e.ldiff_window = p.ldiffWindow

theorem dtw_distance_pre_spec (l1 l2 w : Nat) (hw : 1 ≤ cEffWindow l1 l2 w) :
    let p : Roll := ⟨l1, l2, cEffWindow l1 l2 w⟩
    let e := dtw_distance_pre { l1 := l1, l2 := l2, settings_window := w }
    CInv p e ∧ e.skip = 0 ∧ e.i0 = 1 ∧ e.i1 = 0 := by
  intro p e
  refine ⟨⟨rfl, rfl, ?len, ?dlw, ?ldw⟩, rfl, rfl, rfl⟩
  all_goals
    simp only [e, p, dtw_distance_pre, cEffWindow_cast]
    generalize cEffWindow l1 l2 w = W at hw ⊢
  case len => simp only [Roll.length, Roll.ldiff_eq]; omega
  case dlw => simp only [Roll.dlWindow, Roll.dl_eq]; omega
  case ldw => simp only [Roll.ldiffWindow_eq]; omega

/-- Row `n` of the loop, entered with `skip` still that of the previous row and `i1` the parity of `n`: the
variables get the values `Model/Rolling` gives for row `n`, and the state is ready for row `n + 1`. -/
theorem dtw_distance_row_spec (p : Roll) (e : CEnv) (n : Nat) (s : Int) (h : CInv p e)
    (hs : e.skip = p.skipp n) (h1 : e.i1 = (n % 2 : Nat)) (h0 : e.i0 = 1 - e.i1) :
    let e' := dtw_distance_row { e with i := n, sc := s }
    CInv p e' ∧ e'.skip = p.skip n ∧ e'.skipp = p.skipp n ∧ e'.minj = p.minj n ∧ e'.maxj = max (p.maxj n : Int) s ∧
      e'.i1 = ((n + 1) % 2 : Nat) ∧ e'.i0 = 1 - e'.i1 := by
  obtain ⟨hl1, hl2, hlen, hdlw, hldw⟩ := h
  have hmaxj : (n - e.dl_window) * (if n > e.dl_window then 1 else 0) = (p.maxj n : Int) := by
    rw [mul_test, hdlw, Roll.maxj]; split_ifs <;> omega
  refine ⟨⟨hl1, hl2, hlen, hdlw, hldw⟩, ?_, hs, ?_, ?_, ?_, ?_⟩
  · show (n - e.dl_window) * _ * _ = _
    rw [hmaxj, mul_test, hl2, hlen, Roll.skip]; split_ifs <;> omega
  · show (if n + e.ldiff_window > e.l2 then e.l2 else n + e.ldiff_window) = _
    rw [hl2, hldw, Roll.minj]; omega
  · show (if s > (n - e.dl_window) * _ then s else (n - e.dl_window) * _) = _
    rw [hmaxj]; omega
  · show 1 - e.i1 = _
    omega
  · show 1 - e.i0 = 1 - (1 - e.i1)
    omega

/-- state of the integer variables after the index bookkeeping of row `n`; `sc n` is the value the pruning
column `sc` has at that point (it depends on the data, so it is a parameter) -/
def cRun (pre row : CEnv → CEnv) (l1 l2 w : Nat) (sc : Nat → Int) : Nat → CEnv
  | 0 => row { pre { l1 := l1, l2 := l2, settings_window := w } with i := (0 : Nat), sc := sc 0 }
  | n + 1 => row { cRun pre row l1 l2 w sc n with i := ((n + 1 : Nat) : Int), sc := sc (n + 1) }

/-- **`dtw_distance`, every row of the loop**: buffer length, band and offsets are those of `Model/Rolling`
(whose accesses C08 proves to be in range); the band start carries the pruning adjustment; the two rows of
the buffer alternate -/
theorem CBand_dtw_distance (l1 l2 w : Nat) (sc : Nat → Int) (hw : 1 ≤ cEffWindow l1 l2 w) (n : Nat) :
    let p : Roll := ⟨l1, l2, cEffWindow l1 l2 w⟩
    let e := cRun dtw_distance_pre dtw_distance_row l1 l2 w sc n
    CInv p e ∧ e.skip = p.skip n ∧ e.skipp = p.skipp n ∧ e.minj = p.minj n ∧ e.maxj = max (p.maxj n : Int) (sc n) ∧
      e.i1 = ((n + 1) % 2 : Nat) ∧ e.i0 = 1 - e.i1 := by
  intro p
  -- `p.skipp 0 = 0` and `p.skipp (n + 1) = p.skip n` by computation
  induction n with
  | zero =>
    obtain ⟨hinv, hs, h0, h1⟩ := dtw_distance_pre_spec l1 l2 w hw
    exact dtw_distance_row_spec p _ 0 (sc 0) hinv hs h1 (by rw [h0, h1]; rfl)
  | succ n ih =>
    obtain ⟨hinv, hs, -, -, -, hi1, hi0⟩ := ih
    exact dtw_distance_row_spec p _ (n + 1) (sc (n + 1)) hinv hs hi1 hi0

/-- the three other kernels have the same integer slice -/
theorem CBand_variants_same :
    dtw_distance_ndim_pre = dtw_distance_pre ∧ dtw_distance_ndim_row = dtw_distance_row ∧
    dtw_distance_euclidean_pre = dtw_distance_pre ∧ dtw_distance_euclidean_row = dtw_distance_row ∧
    dtw_distance_ndim_euclidean_pre = dtw_distance_pre ∧ dtw_distance_ndim_euclidean_row = dtw_distance_row :=
  ⟨rfl, rfl, rfl, rfl, rfl, rfl⟩

section grid
variable {α : Type}

/-- the band of `Model/Rolling` is the band of the DTW model -/
theorem Roll_band_eq_grid (g : Grid α) (hw : 1 ≤ g.window) (i : Nat) :
    (⟨g.r, g.c, g.window⟩ : Roll).maxj i = g.jStart i ∧ (⟨g.r, g.c, g.window⟩ : Roll).minj i = g.jEnd i :=
  ⟨Roll.maxj_eq _ hw i, Roll.minj_eq _ i⟩

end grid

/-- **`dtw_wps_parts`** (the layout of the compact warping-paths matrix: effective window, row width, buffer
length and the three row indices that separate the four regions A–D) is `wpsParts` of `Model/Compact.lean`,
for all lengths and every window setting (0 = none) -/
theorem CBand_wps_parts (l1 l2 w : Nat) :
    let e := dtw_wps_parts { l1 := l1, l2 := l2, settings_window := w }
    let p := wpsParts l1 l2 w
    e.parts_window = p.window ∧ e.parts_ldiff = p.ldiff ∧ e.parts_ldiffr = p.ldiffr ∧ e.parts_ldiffc = p.ldiffc ∧
    e.parts_width = p.width ∧ e.parts_overlap_left_ri = p.ol ∧ e.parts_overlap_right_ri = p.or ∧
    e.parts_ri1 = p.ri1 ∧ e.parts_ri2 = p.ri2 ∧ e.parts_ri3 = p.ri3 ∧ e.parts_length = p.length := by
  intro e p
  have hp : p.IsLayout l1 l2 := wpsParts_isLayout l1 l2 w
  -- In the order of the C statements, each field from the ones before it. Where a statement is built from `+`,
  -- `*`, `min` and `max`, the model's equation (`hp`) with the cast pushed inside is the C statement itself (`rfl`).
  have hld : e.parts_ldiff = p.ldiff ∧ e.parts_ldiffr = p.ldiffr ∧ e.parts_ldiffc = p.ldiffc := by
    show (if (l1 : Int) > l2 then (l1 : Int) - l2 else l2 - l1) = _ ∧
      (if (l1 : Int) > l2 then (l1 : Int) - l2 else 0) = _ ∧ (if (l1 : Int) > l2 then 0 else (l2 : Int) - l1) = _
    rw [hp.ldiff, hp.ldiffr, hp.ldiffc]; omega
  have hww : e.parts_window = p.window ∧ e.parts_width = p.width := by
    -- both sides branch on `window == 0` and are the same expression in either branch
    show (if (w : Int) = 0 then max (l1 : Int) l2 else min (w : Int) (max (l1 : Int) l2)) =
        ((if w = 0 then max l1 l2 else min w (max l1 l2) : Nat) : Int) ∧
      (if (w : Int) = 0 then (l2 : Int) + 1
        else min ((l2 : Int) + 1) (e.parts_ldiff + 2 * min (w : Int) (max (l1 : Int) l2) + 1)) =
        ((if w = 0 then l2 + 1
          else min (l2 + 1) (p.ldiff + 2 * (if w = 0 then max l1 l2 else min w (max l1 l2)) + 1) : Nat) : Int)
    rw [hld.1]; simp only [Int.natCast_eq_zero]
    split_ifs <;> push_cast [natCast_min, natCast_max] <;> exact ⟨rfl, rfl⟩
  obtain ⟨hwin, hwidth⟩ := hww
  have hol : e.parts_overlap_left_ri = p.ol := by
    rw [hp.ol, natCast_min, Int.natCast_add, ← hwin, ← hld.2.1]; rfl
  have hor : e.parts_overlap_right_ri = p.or := by
    show (if e.parts_window + e.parts_ldiffr ≤ (l1 : Int)
      then max ((l1 : Int) + 1 - e.parts_window - e.parts_ldiffr) 0 else 0) = _
    have := hp.ol_add_or; have := hp.ol
    rw [hwin, hld.2.1]; omega
  have h1 : e.parts_ri1 = p.ri1 := by rw [hp.ri1, natCast_min, natCast_min, ← hol, ← hor]; rfl
  have h2 : e.parts_ri2 = p.ri2 := by rw [hp.ri2, natCast_min, ← hol]; rfl
  have h3 : e.parts_ri3 = p.ri3 := by rw [hp.ri3, natCast_min, natCast_max, ← hol, ← hor]; rfl
  have hlen : e.parts_length = p.length := by
    show _ = (((l1 + 1) * p.width : Nat) : Int)
    rw [Int.natCast_mul, ← hwidth]; rfl
  exact ⟨hwin, hld.1, hld.2.1, hld.2.2, hwidth, hol, hor, h1, h2, h3, hlen⟩

theorem CBand_functions_pinned :
    Gen.CBand.functions = ["lb_keogh_pre", "lb_keogh_row", "lb_keogh_euclidean_pre", "lb_keogh_euclidean_row",
      "dtw_distance_pre", "dtw_distance_row", "dtw_distance_ndim_pre", "dtw_distance_ndim_row",
      "dtw_distance_euclidean_pre", "dtw_distance_euclidean_row", "dtw_distance_ndim_euclidean_pre",
      "dtw_distance_ndim_euclidean_row", "dtw_wps_parts"] := rfl

/- non-vacuity: a concrete run -/
example : (cRun dtw_distance_pre dtw_distance_row 9 9 2 (fun _ => 0) 8).skip = 7 ∧
    (cRun dtw_distance_pre dtw_distance_row 9 9 2 (fun _ => 0) 8).minj = 9 ∧
    (cRun dtw_distance_pre dtw_distance_row 9 9 2 (fun _ => 0) 8).length = 5 := by decide

end Dtai
