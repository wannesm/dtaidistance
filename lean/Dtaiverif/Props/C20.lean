/-
Props/C20.lean — C20 (the part that is decision logic): a series reaches a C kernel with exactly its
numeric content, whatever the memory layout of the NumPy view it came in.

Model: `Model/Views.lean` (views = base/shape/strides over an address space; a kernel reads through a bare
pointer with unit stride, row-major). `Generated/Contiguity.lean` is re-extracted from /repo on every
run: the flag each guard tests and the order of the copy it makes. The theorems say that the guards as
they are in the source (`c_contiguous`, copy in C order) make kernel reads equal to the logical content
for EVERY view (any strides, negative or zero strides, transposed / Fortran order / sliced), and that
the weaker flag `contiguous` would not.

The other clauses of C20 (inputs are not written to, results do not depend on earlier calls, NumPy
absent) are runtime facts; they are decided by the correspondence harness only (see DESIGN.md).
-/
import Dtaiverif.Proofs.Views
import Dtaiverif.Generated.Contiguity

namespace Dtai
variable {α : Type}

/-- **Layout independence, univariate**: with any of the flags as guard, what the kernel reads from the
prepared buffer is the logical content of the view — for every base, length and stride. -/
theorem C20_prepare1 (fl : ContigFlag) (mem : Int → α) (v : View1) (i : Nat) (hi : i < v.n) :
    (v.prepare fl mem).2.kernel (v.prepare fl mem).1 i = v.get mem i := by
  unfold View1.prepare
  split
  next h => exact View1.kernel_eq_get mem v fl h i hi
  next => exact View1.kernel_copyC mem v i

/-- **Layout independence, multivariate**: with the guard `c_contiguous` the kernel reads the logical
content of every view, whatever its strides (C order, Fortran order, transposed, sliced, reversed). -/
theorem C20_prepare2 (mem : Int → α) (v : View2) (i k : Nat) (hi : i < v.n) (hk : k < v.d) :
    (v.prepare .c mem).2.kernel (v.prepare .c mem).1 i k = v.get mem i k := by
  unfold View2.prepare
  split
  next h => exact View2.kernel_eq_get mem v h i k hi hk
  next => exact View2.kernel_copyC mem v i k hk

/-- **Layout independence for a 3-D collection** (`n` series × `len` points × `d` values handed to the
matrix routines as one block): after the guard, series `i`, point `j`, value `k` is read at offset
`(i*len + j)*d + k`, whatever the strides of the array the caller passed. -/
theorem C20_prepare3 (mem : Int → α) (v : View3) (i j k : Nat) (hi : i < v.n) (hj : j < v.len) (hk : k < v.d) :
    (v.prepare mem).2.kernel (v.prepare mem).1 i j k = v.get mem i j k := by
  unfold View3.prepare
  split
  next h => exact View3.kernel_eq_get mem v h i j k hi hj hk
  next => exact View3.kernel_copyC mem v i j k hj hk

/-- … and the weaker guard `contiguous` (C **or** Fortran order) would not do: a 2×2 Fortran-ordered
view of four distinct numbers is passed through unchanged and the kernel reads the transposed content -/
theorem C20_any_flag_insufficient :
    ∃ (mem : Int → Nat) (v : View2) (i k : Nat), i < v.n ∧ k < v.d ∧
      (v.prepare .any mem).2.kernel (v.prepare .any mem).1 i k ≠ v.get mem i k :=
  ⟨fun a => a.toNat, { base := 0, n := 2, d := 2, s0 := 1, s1 := 2 }, 0, 1, by decide, by decide, by decide⟩

/-- **The guards in /repo's source** (re-extracted on every run): every site tests `c_contiguous` and
copies in C order -/
theorem C20_sites_ok : Gen.contigSites.all (fun s => s.2.1 == ContigFlag.c && s.2.2) = true := by decide

theorem C20_sites_nonempty : Gen.contigSites.length = 4 := by decide

end Dtai
