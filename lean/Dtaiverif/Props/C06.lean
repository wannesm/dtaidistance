/-
Props/C06.lean — C06: distance matrix = pairwise distances in the documented layout, any block.
`pairs n block` is the specification (row-major order of the selected (row, column) pairs); it is also
literally the loop nest of `distance_matrix_python` / `_distance_matrix_idxs`.
-/
import Dtaiverif.Proofs.Matrix

namespace Dtai

/-- the C double loop enumerates exactly the pairs the Python engine enumerates, in the same order -/
theorem C06_enumerations_agree (n : Nat) (b : Block) (hv : b.Valid n) :
    pairsC n (toCBlock (some b)) = pairs n (some b) := by
  rw [toCBlock, pairsC_eq_pairs n b hv.c2, hv.reOf, hv.ceOf]

theorem C06_enumerations_agree_noblock (n : Nat) : pairsC n (toCBlock none) = pairs n none :=
  pairsC_eq_pairs n (toCBlock none) (Nat.zero_le n)

/-- advertised lengths (`_distance_matrix_length`, `dtw_distances_length`) = number of selected pairs,
for every valid block (triangular or rectangular, including blocks that select no pair) … -/
theorem C06_lengths_agree (n : Nat) (b : Block) (hv : b.Valid n) :
    lengthPy n (some b) = (pairs n (some b)).length ∧
    lengthC n (toCBlock (some b)) = (pairs n (some b)).length :=
  ⟨lengthPy_eq n b hv.c2, (lengthC_valid n b hv).trans (lengthPy_eq n b hv.c2)⟩

/-- … and without a block (`n(n-1)/2`, computed without overflow in C) -/
theorem C06_lengths_agree_noblock (n : Nat) :
    lengthPy n none = (pairs n none).length ∧ lengthC n (toCBlock none) = (pairs n none).length :=
  have h1 := length_pairs_none n
  have h2 := lengthC_none n
  ⟨by simp only [lengthPy]; omega, by omega⟩

/-- the condensed-index helper addresses the element of the (unordered) pair -/
theorem C06_condensed_index (n a b : Nat) (hab : a < b) (hb : b < n) :
    (pairs n none)[condensedIndex a b n]? = some (a, b) ∧
    (pairs n none)[condensedIndex b a n]? = some (a, b) :=
  condensedIndex_spec n a b hab hb

/-- entry `k` of the compact result is the value computed for the `k`-th selected pair: the serial
loops write slot `k` while visiting the `k`-th pair (slots are assigned consecutively) -/
theorem C06_values (n : Nat) (b : Block) (rows : List Nat) (off : Nat) :
    ((planFrom n b off rows).flatMap (rowWrites n b)).map Prod.fst =
      List.range' off (((planFrom n b off rows).flatMap (rowWrites n b)).length) :=
  (plan_writes n b rows off).2

/- non-vacuity -/
example : (⟨1, 3, 0, 4, true⟩ : Block).Valid 4 := ⟨by decide, by decide, by decide, by decide⟩
example : pairs 4 (some ⟨1, 3, 0, 4, true⟩) = [(1,2), (1,3), (2,3)] := by decide
example : pairs 4 (some ⟨2, 4, 0, 2, true⟩) = [] := by decide   -- a valid block selecting no pair
example : lengthC 4 ⟨2, 4, 0, 2, true⟩ = 0 := by decide

end Dtai
