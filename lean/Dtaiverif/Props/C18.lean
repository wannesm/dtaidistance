/-
Props/C18.lean — C18: the affinity (local-concurrence) matrix follows its recurrence; matches are
contiguous monotone paths through positive cells that never reuse a cell of an earlier match.

Model: `Model/Affinity.lean`. Numbers live in any linearly ordered commutative ring (`Rat` in the
driver, which evaluates the recurrence exactly on the floating-point affinities of the implementation);
the point affinities `exp(-gamma·diff²)` are an arbitrary table. The neighbour-selection rule of the walk
is a parameter: the theorems hold for the Python rule (`choosePy`), the C rule (`chooseC`) and any other.
-/
import Mathlib.Algebra.Order.Ring.Rat
import Dtaiverif.Proofs.Affinity
import Dtaiverif.Props.PyBand

namespace Dtai
variable {β : Type} [CommRing β] [LinearOrder β] [IsStrictOrderedRing β]

/-- the executable row scan (what the driver runs) computes the recurrence -/
theorem C18_scan (g : AffGrid β) (I : Nat) : affRows g I = (List.range (g.c + 1)).map (affSpec g I) :=
  affRows_eq g I

/-- **Excluded cells** are exactly the cells outside the band and, with `only_triu`, below the diagonal;
of the borders only the origin is a cell. -/
theorem C18_excluded (g : AffGrid β) (I J : Nat) :
    (affSpec g (I+1) (J+1) = none ↔ ¬ (g.jStart I ≤ J ∧ J < g.jEnd I)) ∧
    (g.onlyTriu = true → J < I → affSpec g (I+1) (J+1) = none) ∧
    affSpec g 0 (J+1) = none ∧ affSpec g (I+1) 0 = none ∧ affSpec g 0 0 = some 0 := by
  refine ⟨?_, ?_, affSpec_zero_succ g J, affSpec_succ_zero g I, affSpec_zero_zero g⟩
  · rw [affSpec_none_iff]
    simp [AffGrid.inBand]
  · intro ht hlt
    rw [affSpec_none_iff]
    simp only [AffGrid.inBand, AffGrid.jStart, ht, if_true, Bool.and_eq_false_imp, decide_eq_true_eq,
      decide_eq_false_iff_not]
    intro h
    have : I ≤ J := le_trans (le_max_left _ _) h
    omega

/-- **The documented recurrence.** An in-band cell with best penalised predecessor `p` holds
`max(0, S + F·p)` with `(S, F) = (delta, delta_factor)` when the point affinity is below `tau` and
`(affinity, 1)` otherwise; with no predecessor it holds 0; in every case it is `≥ 0`. -/
theorem C18_recurrence (g : AffGrid β) (I J : Nat) (hband : g.inBand I J = true) :
    let prev := omax (affSpec g I J) (omax (osub (affSpec g I (J+1)) g.pen) (osub (affSpec g (I+1) J) g.pen))
    let S := if g.aff I J < g.tau then g.delta else g.aff I J
    let F := if g.aff I J < g.tau then g.deltaFactor else 1
    (∀ p, prev = some p → affSpec g (I+1) (J+1) = some (max 0 (S + F * p))) ∧
    (prev = none → affSpec g (I+1) (J+1) = some 0) ∧
    ∀ v, affSpec g (I+1) (J+1) = some v → 0 ≤ v := by
  intro prev S F
  have hcell : affSpec g (I+1) (J+1) = some (match prev with
      | none => 0
      | some p => if g.aff I J < g.tau then max 0 (g.delta + g.deltaFactor * p) else max 0 (g.aff I J + p)) := by
    rw [affSpec_in, affCell, if_pos hband]; rfl
  refine ⟨fun p hp => ?_, fun hp => by rw [hcell, hp], fun v hv => affSpec_nonneg g _ _ v hv⟩
  rw [hcell, hp]
  by_cases h : g.aff I J < g.tau
  · simp only [S, F, if_pos h]
  · simp only [S, F, if_neg h, one_mul]

/-- **A traced match**: started in a positive cell off the borders, the walk returns a chain of
diagonal / up / left steps beginning in that cell, all of whose cells are positive. -/
theorem C18_walk (choose : Option β → Option β → Option β → Nat) (wp : WP β) (r c : Nat) (hr : 1 ≤ r) (hc : 1 ≤ c)
    (hstart : posVal (wp.get r c) = true) :
    (lcRaw choose wp r c).IsChain StepBack ∧ (∀ q ∈ lcRaw choose wp r c, posVal (wp.get q.1 q.2) = true) ∧
      (lcRaw choose wp r c).head? = some (r, c) :=
  lcRaw_spec choose wp r c hr hc hstart

/-- **One call of `kbest_matches(k, minlen, restart)`**, for either reset behaviour and any walk rule:
at most `k` matches; each starts in the cell it is named after, is a contiguous monotone chain of at
least `minlen` cells that are positive in the matrix the call started from; the matches of the call are
pairwise disjoint, disjoint from every earlier match of the same epoch, and the epoch invariant holds
again afterwards. -/
theorem C18_call (choose : Option β → Option β → Option β → Nat) (resetPos : Bool) (k : Option Nat)
    (minlen : Nat) (restart : Bool) (wp : WP β) (live : List LCMatchM) (hinv : EpochInv wp live) :
    let wp0 := if restart && resetPos then wpPositivize wp else wp
    let res := lcCall choose resetPos k minlen restart wp
    let live' := if restart && resetPos then res.1 else live ++ res.1
    (∀ m ∈ res.1, MatchOK wp0 minlen m) ∧ (∀ kk, k = some kk → res.1.length ≤ kk) ∧ EpochInv res.2 live' := by
  intro wp0 res live'
  -- the matches the new ones have to avoid: none after a real reset, which starts a new epoch
  obtain ⟨old, hold, hlive⟩ : ∃ old, EpochInv wp0 old ∧ live' = old ++ res.1 := by
    by_cases hfresh : (restart && resetPos) = true
    · refine ⟨[], ⟨?_, nofun, .nil⟩, by simp [live', hfresh]⟩
      simp only [wp0, hfresh, if_true]
      exact wpPositivize_get00 wp hinv.origin
    · exact ⟨live, by simpa [wp0, hfresh] using hinv, by simp [live', hfresh]⟩
  obtain ⟨g1, g2, g3⟩ := lcGo_spec choose k minlen _ wp0 old _ 0 wp0 [] (Flip.refl wp0) (by simpa using hold)
    nofun rfl
  exact ⟨g1, fun kk hk => g3 kk hk (Nat.zero_le _), hlive ▸ g2⟩

/-- the object-level history: every call updates the matrix and the list of matches of the current epoch -/
def lcHistory (choose : Option β → Option β → Option β → Nat) (resetPos : Bool)
    (calls : List (Option Nat × Nat × Bool)) (st : WP β × List LCMatchM) : WP β × List LCMatchM :=
  calls.foldl (fun st call =>
    let res := lcCall choose resetPos call.1 call.2.1 call.2.2 st.1
    (res.2, if call.2.2 && resetPos then res.1 else st.2 ++ res.1)) st

/-- **All sequences of calls**: after any history of `kbest_matches` calls with any `k`, `minlen`,
`restart` flags, the matches found since the last real reset are pairwise disjoint. With the reset of
the non-compact variant (which never makes the matrix positive again, `resetPos = false`) that covers
all matches ever returned by the object. -/
theorem C18_history (choose : Option β → Option β → Option β → Nat) (resetPos : Bool)
    (calls : List (Option Nat × Nat × Bool)) (wp : WP β) (live : List LCMatchM) (hinv : EpochInv wp live) :
    EpochInv (lcHistory choose resetPos calls (wp, live)).1 (lcHistory choose resetPos calls (wp, live)).2 := by
  refine List.foldlRecOn (motive := fun st : WP β × List LCMatchM => EpochInv st.1 st.2) calls _ hinv fun st h call _ => ?_
  exact (C18_call choose resetPos call.1 call.2.1 call.2.2 st.1 st.2 h).2.2

/-- non-vacuity: a small matrix, the Python walk rule, two calls on one object -/
example :
    let wp : WP Rat := [[some 0, none, none, none], [none, some 1, some 0, some 1], [none, some 0, some 2, some 1],
                        [none, some 1, some 1, some 3]]
    ((lcHistory choosePy false [(some 1, 2, true), (none, 1, false)] (wp, [])).2.map fun m => (m.row, m.col, m.cells.length))
      = [(3, 3, 3), (1, 3, 1), (2, 3, 1), (3, 1, 1), (3, 2, 1)] := by
  decide +kernel

end Dtai
