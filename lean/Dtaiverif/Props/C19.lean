/-
Props/C19.lean — C19: distance-to-similarity and squashing are monotone, bounded, faithful.

Model: `Model/Similarity.lean` instantiated with the real numbers (`Real.exp`, `Real.log`, `Real.sqrt`,
`x ^ y`: Proofs/Similarity.lean). The theorems are about the documented formulas and about the parameters derived from the data
(maximum, minimum + maximum, the `cover_quantile` scales); the driver runs the same definitions on IEEE
doubles and is compared with the implementation.
-/
import Dtaiverif.Proofs.Similarity

namespace Dtai

/-! ### distance → similarity: non-increasing, zero ↦ maximal similarity, range -/

theorem C19_exponential (r : ℝ) (hr : 0 < r) :
    (∀ d e : ℝ, d ≤ e → simExponential r e ≤ simExponential r d) ∧ simExponential r 0 = 1 ∧
    ∀ d : ℝ, 0 ≤ d → 0 ≤ simExponential r d ∧ simExponential r d ≤ 1 :=
  ⟨fun _ _ h => exp_neg_div_anti hr h, by simp [simExponential, HasExp.exp],
    fun _ hd => ⟨(Real.exp_pos _).le, exp_neg_div_le_one hr hd⟩⟩

theorem C19_gaussian (r : ℝ) (hr : r ≠ 0) :
    (∀ d e : ℝ, 0 ≤ d → d ≤ e → simGaussian r e ≤ simGaussian r d) ∧ simGaussian r 0 = 1 ∧
    ∀ d : ℝ, 0 ≤ simGaussian r d ∧ simGaussian r d ≤ 1 :=
  have hr2 : 0 < r * r := mul_self_pos.2 hr
  ⟨fun _ _ hd h => exp_neg_div_anti hr2 (mul_self_le_mul_self hd h), by simp [simGaussian, HasExp.exp],
    fun d => ⟨(Real.exp_pos _).le, exp_neg_div_le_one hr2 (mul_self_nonneg d)⟩⟩

theorem C19_reciprocal (r a : ℝ) (hr : 0 < r) (ha : 0 ≤ a) :
    (∀ d e : ℝ, 0 ≤ d → d ≤ e → simReciprocal r a e ≤ simReciprocal r a d) ∧ simReciprocal r a 0 = 1 / r ∧
    ∀ d : ℝ, 0 ≤ d → 0 ≤ simReciprocal r a d ∧ simReciprocal r a d ≤ 1 / r :=
  ⟨fun _ _ hd h => one_div_add_anti hr (mul_nonneg hd ha) (mul_le_mul_of_nonneg_right h ha),
    by simp [simReciprocal], fun _ hd => one_div_add_range hr (mul_nonneg hd ha)⟩

/-- default scale `r = 1`, `a = 1`: values in `[0, 1]` -/
theorem C19_reciprocal_default (d : ℝ) (hd : 0 ≤ d) :
    0 ≤ simReciprocal 1 1 d ∧ simReciprocal 1 1 d ≤ 1 :=
  ((C19_reciprocal 1 1 one_pos zero_le_one).2.2 d hd).imp_right (·.trans_eq one_div_one)

theorem C19_reverse (r : ℝ) (hr : 0 < r) :
    (∀ d e : ℝ, d ≤ e → simReverse r e ≤ simReverse r d) ∧ simReverse r 0 = 1 :=
  ⟨fun _ _ h => div_le_div_of_nonneg_right (sub_le_sub_left h r) hr.le,
    by rw [simReverse, sub_zero, div_self hr.ne']⟩

/-- default scale of the reverse transform `r = min + max`: every value of the data maps into `[0, 1]` -/
theorem C19_reverse_default (mn mx d : ℝ) (hmn : 0 ≤ mn) (hpos : 0 < mn + mx) (h1 : mn ≤ d) (h2 : d ≤ mx) :
    0 ≤ simReverse (mn + mx) d ∧ simReverse (mn + mx) d ≤ 1 :=
  simReverse_range hpos (hmn.trans h1) (h2.trans (le_add_of_nonneg_left hmn))

/-! ### the derived scales are positive, so the laws above apply to them -/

/-- default scale of the exponential / Gaussian transform: positive as soon as some distance is -/
theorem C19_default_scale_pos (l : List ℝ) (h : ∃ x ∈ l, 0 < x) : 0 < defaultScaleMax l := by
  obtain ⟨x, hx, hpos⟩ := h
  exact lt_of_lt_of_le hpos (listMax_ge l x hx)

/-- the guard on derived scales: a zero scale becomes 1, every other scale is kept; in particular a
non-negative derived scale is positive after the guard -/
theorem C19_guard (r : ℝ) : (r ≠ 0 → guardScale r = r) ∧ (r = 0 → guardScale r = 1) ∧ (0 ≤ r → 0 < guardScale r) := by
  unfold guardScale
  rcases lt_trichotomy r 0 with h | rfl | h
  · simp [h, h.not_gt, h.ne, h.not_ge]
  · simp
  · simp [h, h.ne']

/-- `cover_quantile`: for a positive quantile `Q` and a target similarity in `(0, 1)` the derived scales
are positive, and the exponential transform then reaches exactly the target at `Q` -/
theorem C19_cover_scales (Q t : ℝ) (hQ : 0 < Q) (ht0 : 0 < t) (ht1 : t < 1) :
    0 < coverExponential Q t ∧ 0 < coverGaussian Q t ∧ simExponential (coverExponential Q t) Q = t := by
  have hlog : Real.log t < 0 := Real.log_neg ht0 ht1
  refine ⟨div_pos_of_neg_of_neg (neg_neg_of_pos hQ) hlog,
    Real.sqrt_pos.2 (div_pos_of_neg_of_neg (neg_neg_of_pos (mul_pos hQ hQ)) hlog), ?_⟩
  show Real.exp (-Q / (-Q / Real.log t)) = t
  rw [div_div_cancel₀ (neg_neg_of_pos hQ).ne, Real.exp_log ht0]

/-! ### squashing: non-decreasing, into [0, 1] -/

theorem C19_logistic (r x0 : ℝ) (hr : 0 < r) :
    (∀ x y : ℝ, x ≤ y → sqLogistic r x0 x ≤ sqLogistic r x0 y) ∧
    ∀ x : ℝ, 0 ≤ sqLogistic r x0 x ∧ sqLogistic r x0 x ≤ 1 :=
  ⟨fun _ _ h => one_div_add_anti one_pos (Real.exp_pos _).le (exp_neg_div_anti hr (sub_le_sub_right h x0)),
    fun _ => one_div_one_add_range (Real.exp_pos _).le⟩

theorem C19_logistic_base (b r x0 : ℝ) (hb : 1 ≤ b) (hr : 0 < r) :
    (∀ x y : ℝ, x ≤ y → sqLogisticBase b r x0 x ≤ sqLogisticBase b r x0 y) ∧
    ∀ x : ℝ, 0 ≤ sqLogisticBase b r x0 x ∧ sqLogisticBase b r x0 x ≤ 1 :=
  have hpow : ∀ y : ℝ, 0 ≤ b ^ y := fun y => (Real.rpow_pos_of_pos (one_pos.trans_le hb) y).le
  ⟨fun _ _ h => one_div_add_anti one_pos (hpow _)
      (Real.rpow_le_rpow_of_exponent_le hb (neg_div_anti hr (sub_le_sub_right h x0))),
    fun _ => one_div_one_add_range (hpow _)⟩

/-- the logistic squash takes the value one half exactly at its midpoint, whatever the slope and the base (for an
input that is, e.g., a one-element or a constant array the midpoint — the mean — is an entry) -/
theorem C19_logistic_midpoint (b r x0 : ℝ) (hb : 0 < b) :
    sqLogistic r x0 x0 = 1 / 2 ∧ sqLogisticBase b r x0 x0 = 1 / 2 := by
  simp only [sqLogistic, sqLogisticBase, HasExp.exp, HasExp.pow, sub_self, neg_zero, zero_div, Real.exp_zero,
    Real.rpow_zero, one_add_one_eq_two, and_self]

/-! The exponential and the Gaussian squash are `1 -` the similarity of the same name. -/

theorem C19_sq_exponential (r : ℝ) (hr : 0 < r) :
    (∀ x y : ℝ, x ≤ y → sqExponential r x ≤ sqExponential r y) ∧
    ∀ x : ℝ, 0 ≤ x → 0 ≤ sqExponential r x ∧ sqExponential r x ≤ 1 :=
  ⟨fun x y h => sub_le_sub_left ((C19_exponential r hr).1 x y h) 1,
    fun x hx => one_sub_range ((C19_exponential r hr).2.2 x hx)⟩

theorem C19_sq_gaussian (r : ℝ) (hr : r ≠ 0) :
    (∀ x y : ℝ, 0 ≤ x → x ≤ y → sqGaussian r x ≤ sqGaussian r y) ∧
    ∀ x : ℝ, 0 ≤ sqGaussian r x ∧ sqGaussian r x ≤ 1 :=
  ⟨fun x y hx h => sub_le_sub_left ((C19_gaussian r hr).1 x y hx h) 1,
    fun x => one_sub_range ((C19_gaussian r hr).2.2 x)⟩

/-- `keep_sign` for a non-decreasing squashing function with values in `[0, 1]`: the result is still
non-decreasing, non-negative inputs map into `[0, 1]` and negative inputs stay non-positive -/
theorem C19_keep_sign (f : ℝ → ℝ) (hmono : ∀ x y, 0 ≤ x → x ≤ y → f x ≤ f y) (hrange : ∀ x, 0 ≤ x → 0 ≤ f x ∧ f x ≤ 1) :
    (∀ x y : ℝ, x ≤ y → keepSign f x ≤ keepSign f y) ∧
    (∀ x : ℝ, 0 ≤ x → 0 ≤ keepSign f x ∧ keepSign f x ≤ 1) ∧ (∀ x : ℝ, x < 0 → keepSign f x ≤ 0) := by
  -- `keepSign f` is the odd extension of `x ↦ f x - f 0`, which is non-negative on `x ≥ 0`
  have h0 : ∀ x, 0 ≤ x → 0 ≤ f x - f 0 := fun x hx => sub_nonneg.2 (hmono 0 x le_rfl hx)
  refine ⟨fun x y h => ?_, fun x hx => ?_, fun x hx => ?_⟩
  · rcases le_total 0 x with hx | hx
    · rw [keepSign_of_nonneg f hx, keepSign_of_nonneg f (hx.trans h)]
      exact sub_le_sub_right (hmono x y hx h) _
    · rcases le_total 0 y with hy | hy
      · rw [keepSign_of_nonpos f hx, keepSign_of_nonneg f hy]
        exact (neg_nonpos.2 (h0 _ (neg_nonneg.2 hx))).trans (h0 y hy)
      · rw [keepSign_of_nonpos f hx, keepSign_of_nonpos f hy]
        exact neg_le_neg (sub_le_sub_right (hmono (-y) (-x) (neg_nonneg.2 hy) (neg_le_neg h)) _)
  · rw [keepSign_of_nonneg f hx]
    exact ⟨h0 x hx, (sub_le_self _ (hrange 0 le_rfl).1).trans (hrange x hx).2⟩
  · rw [keepSign_of_nonpos f hx.le]
    exact neg_nonpos.2 (h0 _ (neg_nonneg.2 hx.le))

/-- **Faithful / reproducible**: the transforms are functions of the data and the reported parameters
only, so re-applying them with the reported parameters reproduces the output — in the model this is the
definitional statement that a derived parameter is used exactly like an explicit one -/
theorem C19_round_trip (l : List ℝ) :
    l.map (simExponential (defaultScaleMax l)) = l.map (fun d => Real.exp (-d / listMax l)) ∧
    l.map (simReverse (defaultScaleReverse l)) = l.map (fun d => (listMin l + listMax l - d) / (listMin l + listMax l)) :=
  ⟨rfl, rfl⟩

end Dtai
