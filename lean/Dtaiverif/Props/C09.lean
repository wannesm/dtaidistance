/-
Props/C09.lean — C09: LB_Keogh ≤ DTW ≤ Euclidean upper bound.
-/
import Dtaiverif.Props.CBand
import Dtaiverif.Proofs.Bounds
import Dtaiverif.Proofs.CostInst

namespace Dtai
variable {α : Type} [LinearOrderedAddCommMonoidWithTop α]

/-- The Euclidean distance (surplus elements compared with the last element of the shorter series) is
never below the DTW distance: for every window ≥ 1 and any psi, without max_step, when there is no
penalty or the lengths are equal. -/
theorem C09_dtw_le_ed (g : Grid α) (h : g.NonNeg) (hr : 1 ≤ g.r) (hc : 1 ≤ g.c) (hw : 1 ≤ g.window)
    (hms : g.maxStep = ⊤) (hpen : g.pen = 0 ∨ g.r = g.c) :
    dtwSpec g ≤ edSum g.cost g.r g.c :=
  dtw_le_ed g h hr hc hw hms hpen

/-- Any row-wise lower bound of the point costs over the window band sums to a lower bound of DTW
(any penalty ≥ 0, any window, no relaxation of series 1). -/
theorem C09_lb_le_dtw (g : Grid α) (h : g.NonNeg) (hn : g.NonDegenerate) (lb : Nat → α)
    (hlb : ∀ i j, g.ok i j = true → lb i ≤ g.cost i j) (hpsi : g.psi1b = 0) (hpsie : g.psi1e = 0) :
    lbUpTo lb (g.r - 1) ≤ dtwSpec g :=
  lb_le_dtw g h hn lb hlb hpsi hpsie

/-- the envelope window of `lb_keogh` is exactly the window band of the DTW kernel -/
theorem C09_envelope_is_band (g : Grid α) (hw : 1 ≤ g.window) (i : Nat) :
    i - ((g.r - g.c) + g.window - 1) = g.jStart i ∧ min g.c (i + (g.c - g.r) + g.window) = g.jEnd i :=
  envelope_is_band g hw i

/-- each Keogh term (squared or absolute inner distance, any signs of the data) is such a row bound -/
theorem C09_keogh_term_sq (s1 s2 : Array Int) (r c window i j : Nat)
    (hj1 : i - ((r - c) + window - 1) ≤ j) (hj2 : j < min c (i + (c - r) + window)) :
    (lbKeoghTerms (fun a b => (a - b).natAbs ^ 2) s1 s2 r c window).getD i 0 ≤
      (s1.getD i 0 - s2.getD j 0).natAbs ^ 2 ∨ r ≤ i :=
  Or.inl (keogh_term_le _ (fun _ _ _ h1 h2 => Nat.pow_le_pow_left (by omega) 2)
    (fun _ _ _ h1 h2 => Nat.pow_le_pow_left (by omega) 2) s1 s2 r c window i j hj1 hj2)

theorem C09_keogh_term_abs (s1 s2 : Array Int) (r c window i j : Nat)
    (hj1 : i - ((r - c) + window - 1) ≤ j) (hj2 : j < min c (i + (c - r) + window)) :
    (lbKeoghTerms (fun a b => (a - b).natAbs) s1 s2 r c window).getD i 0 ≤
      (s1.getD i 0 - s2.getD j 0).natAbs ∨ r ≤ i :=
  Or.inl (keogh_term_le _ (fun _ _ _ h1 h2 => by omega) (fun _ _ _ h1 h2 => by omega) s1 s2 r c window i j hj1 hj2)

/-- `use_pruning` is sound: with the Euclidean bound as threshold the kernel returns the unbounded
distance (C03_pruning_exact applied to C09_dtw_le_ed) -/
theorem C09_pruning_with_ed (g : Grid α) (h : g.NonNeg) (hr : 1 ≤ g.r) (hc : 1 ≤ g.c) (hw : 1 ≤ g.window)
    (hms : g.maxStep = ⊤) (hpen : g.pen = 0 ∨ g.r = g.c) (chk : Bool) :
    distModel g (edSum g.cost g.r g.c) none chk = dtwSpec g :=
  distModel_eq_of_le g h _ chk (dtw_le_ed g h hr hc hw hms hpen)

/- non-vacuity -/
example : lbKeogh (fun a b => (a - b).natAbs ^ 2) #[-5, -1, -7] #[-2, -3, -2] 3 3 1 = 9 + 4 + 25 := by decide
example : edPairs 2 4 = [(0,0), (1,1), (1,2), (1,3)] := by decide

end Dtai
