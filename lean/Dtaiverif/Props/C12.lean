/-
Props/C12.lean — C12: a DBA step averages optimally aligned points and never worsens the fit.

Model: `dbaStep` (Model/Dba.lean): for every selected series the optimal path between the current
average and the series is traced (`backtrack`, an `IsBack` path by C05), the points aligned to a
position are collected, and the new value is their arithmetic mean `sum / count`.
-/
import Dtaiverif.Model.Dba
import Dtaiverif.Proofs.DbaChain

namespace Dtai
variable {K : Type} [Field K] [LinearOrder K] [IsStrictOrderedRing K]

/-- the result stays within the value range of the points it averages -/
theorem C12_in_range (l : List K) (hne : l ≠ []) (lo hi : K)
    (hlo : ∀ x ∈ l, lo ≤ x) (hhi : ∀ x ∈ l, x ≤ hi) : lo ≤ mean l ∧ mean l ≤ hi := by
  have hpos : (0 : K) < l.length := Nat.cast_pos.2 (List.length_pos_iff.2 hne)
  constructor
  · rw [mean, le_div_iff₀' hpos, ← nsmul_eq_mul]; exact List.card_nsmul_le_sum l lo hlo
  · rw [mean, div_le_iff₀' hpos, ← nsmul_eq_mul]; exact List.sum_le_card_nsmul l hi hhi

/-- a set of identical series is a fixed point: if every aligned point equals the current value, the
new value is the current value -/
theorem C12_fixed_point (l : List K) (hne : l ≠ []) (c : K) (h : ∀ x ∈ l, x = c) : mean l = c :=
  have ⟨h1, h2⟩ := C12_in_range l hne c c (fun x hx => (h x hx).ge) fun x hx => (h x hx).le
  le_antisymm h2 h1

/-- unselected series have no influence: the association table is built from the selected series only -/
theorem C12_mask_only (s : RawSettings) (c : Array Int) (series : List (Array Int)) (mask : List Bool)
    (extra : Array Int) :
    dbaStep s c (series ++ [extra]) (mask ++ [false]) = dbaStep s c series mask ∨ series.length ≠ mask.length := by
  refine (Decidable.em (series.length = mask.length)).imp_left fun hl => ?_
  -- the extra pair is zipped last and dropped by the filter on the mask
  simp [dbaStep, List.zip_append hl]

/-- for the alignments used by the step, the summed squared deviation (hence, adding the
value-independent penalties, the summed path cost) does not increase … -/
theorem C12_objective_on_alignments (A : List (Nat × K)) (t : Nat) (c c' : Nat → K) (hA : ∀ p ∈ A, p.1 < t)
    (hmean : ∀ i, i < t → (A.filter fun p => p.1 == i) ≠ [] →
      c' i = mean ((A.filter fun p => p.1 == i).map Prod.snd)) :
    (A.map fun p => (c' p.1 - p.2) ^ 2).sum ≤ (A.map fun p => (c p.1 - p.2) ^ 2).sum :=
  dba_objective_paths A t c c' hA hmean

/-- … and the DTW distance to the new average is at most the cost of the *old* alignment evaluated on
the new average (any admissible path bounds the optimum, C01), while the old alignment's cost on the
old average *is* the old DTW distance (the traced path realises the recurrence, C05). Together with
`C12_objective_on_alignments`: Σ dtw²(c', s_k) ≤ Σ cost(c', s_k | π_k) ≤ Σ cost(c, s_k | π_k) = Σ dtw²(c, s_k). -/
theorem C12_new_distance_le_old_alignment {α : Type} [LinearOrderedAddCommMonoidWithTop α]
    (g' : Grid α) (h : g'.NonNeg) (path : List Cell) (q : Cell)
    (hv : g'.ValidRev (q :: path)) (he : g'.EndOk q) : dtwSpec g' ≤ g'.costRev (q :: path) :=
  dtwSpec_le_path g' path q hv he

theorem C12_old_alignment_is_optimal {α : Type} [LinearOrderedAddCommMonoidWithTop α]
    (g : Grid α) (h : g.NonNeg) (I J : Nat) (hfin : D g (I+1) (J+1) ≠ ⊤) :
    ∃ rest, backtrack (D g) g.pen (I + J + 2) (I+1) (J+1) = (I, J) :: rest ∧
      g.ValidRev ((I, J) :: rest) ∧ g.costRev ((I, J) :: rest) = D g (I+1) (J+1) :=
  backtrack_valid g h I J hfin

/-- **The fit never gets worse — the whole chain in one statement.** For the grids between an average of
length `t` and each selected series (point cost = squared difference, penalty `p ≥ 0`, any window): if
every series comes with an admissible complete path that is optimal for the current average `c` (what
the step traces, C05) and the new average `c'` is, at every position some point is aligned to, the mean
of the aligned points, then `Σ_k DTW²(c', s_k) ≤ Σ_k DTW²(c, s_k)`. -/
theorem C12_step_nonincreasing (t window : Nat) (p : K) (hp : 0 ≤ p) (c c' : Nat → K) (L : List (Aligned K))
    (hvalid : ∀ a ∈ L, ∃ q rest, a.path = q :: rest ∧ (dbaGrid t a.m window p c a.s).ValidRev a.path ∧
      (dbaGrid t a.m window p c a.s).EndOk q ∧
      (dbaGrid t a.m window p c a.s).costRev a.path = dtwSpec (dbaGrid t a.m window p c a.s))
    (hpos : ∀ pr ∈ assocPairs L, pr.1 < t)
    (hmean : ∀ i, i < t → ((assocPairs L).filter fun pr => pr.1 == i) ≠ [] →
      c' i = mean (((assocPairs L).filter fun pr => pr.1 == i).map Prod.snd)) :
    (L.map fun a => dtwSpec (dbaGrid t a.m window p c' a.s)).sum ≤
      (L.map fun a => dtwSpec (dbaGrid t a.m window p c a.s)).sum :=
  dba_step_nonincreasing t window p c c' L hvalid fun i hne => hmean i (lt_of_fiber_ne_nil hpos hne) hne

/-- … and the alignment the step actually traces (back-tracking from the last cell of the exact matrix,
C05) meets the hypothesis of `C12_step_nonincreasing`: it is admissible, complete and optimal. -/
theorem C12_traced_alignment (t m window : Nat) (p : K) (hp : 0 ≤ p) (c s : Nat → K) (ht : 1 ≤ t) (hm : 1 ≤ m)
    (hfin : dtwSpec (dbaGrid t m window p c s) ≠ ⊤) :
    ∃ rest,
      backtrack (D (dbaGrid t m window p c s)) (dbaGrid t m window p c s).pen (t + m) t m = (t - 1, m - 1) :: rest ∧
      (dbaGrid t m window p c s).ValidRev ((t - 1, m - 1) :: rest) ∧
      (dbaGrid t m window p c s).EndOk (t - 1, m - 1) ∧
      (dbaGrid t m window p c s).costRev ((t - 1, m - 1) :: rest) = dtwSpec (dbaGrid t m window p c s) :=
  backtrack_last _ (dbaGrid_nonneg t m window p hp c s) ht hm rfl rfl hfin

/-- packed bit mask (`np.packbits(mask, bitorder='little')`) read back by `bit_test` -/
theorem C12_bit_mask : ∀ r < 16, bitTest #[0b10100101, 0b00000011] r =
    [true, false, true, false, false, true, false, true, true, true, false, false, false, false, false, false].getD r false := by
  decide

/- non-vacuity of the executable model -/
example : dbaStep {} #[0, 2] [#[0, 1, 3], #[5, 5]] [true, false] = [[(1, 2)], [(3, 1)]] := by decide +kernel

end Dtai
