/-
Props/C07.lean — C07: the parallel distance matrix is schedule-independent.

Two parts:
 (1) theorems about the *model* of the plan (`preparePlan`, `rowWrites`): distinct iterations write
     disjoint, consecutive slot ranges, slot `k` receives the `k`-th pair of the serial enumeration,
     and any order of writes to pairwise distinct slots gives the same output array — thread count,
     chunking and schedule kind do not occur in the statement;
 (2) obligations about the plan *re-extracted from dd_dtw_openmp.c on every run*
     (`Generated/OmpPlan.lean`, written by translate/omp_plan.py): every variable assigned in a
     parallel loop body is private or block-local, and the loop header / index expressions are the
     ones the model uses.
-/
import Dtaiverif.Proofs.Matrix
import Dtaiverif.Generated.OmpPlan

namespace Dtai

/-! ### (1) model -/

/-- all writes of a parallel loop over the given rows: `(slot, (row, column))` -/
def allWrites (n : Nat) (b : Block) (rows : List Nat) : List (Nat × (Nat × Nat)) :=
  (planFrom n b 0 rows).flatMap (rowWrites n b)

/-- slots are `0, 1, 2, …` in the order of the serial enumeration: disjoint and covering -/
theorem C07_slots (n : Nat) (b : Block) (rows : List Nat) :
    (allWrites n b rows).map Prod.fst = List.range' 0 (allWrites n b rows).length :=
  (plan_writes n b rows 0).2

theorem C07_slots_disjoint (n : Nat) (b : Block) (rows : List Nat) :
    ((allWrites n b rows).map Prod.fst).Nodup := by
  rw [C07_slots]; exact List.nodup_range'

/-- the pairs written are the pairs of the serial double loop, in the same order -/
theorem C07_pairs (n : Nat) (b : Block) :
    (allWrites n b (List.range' b.rb ((if b.re = 0 then n else b.re) - b.rb))).map Prod.snd = pairsC n b :=
  (plan_writes n b _ 0).1

/-- the plan computed by `dtw_distances_prepare` is the recursive plan used above -/
theorem C07_prepare (n : Nat) (b : Block) :
    preparePlan n b = planFrom n b 0 (List.range' b.rb ((if b.re = 0 then n else b.re) - b.rb)) :=
  preparePlan_eq n b

/-- attaching the distances leaves the slots as they are -/
theorem writes_nodup {β : Type} (n : Nat) (b : Block) (rows : List Nat) (dist : Nat × Nat → β) :
    (((allWrites n b rows).map fun w => (w.1, dist w.2)).map Prod.fst).Nodup := by
  rw [List.map_map]; exact C07_slots_disjoint n b rows

/-- **Schedule independence.** Whatever the number of threads, the assignment of iterations to
threads and the interleaving of their writes (any permutation `σ` of the write events), the output
array equals the one produced by the serial order; the value written depends only on the pair. -/
theorem C07_any_schedule {β : Type} (n : Nat) (b : Block) (rows : List Nat) (dist : Nat × Nat → β)
    (σ : List (Nat × β)) (out : Nat → Option β)
    (hσ : ((allWrites n b rows).map fun w => (w.1, dist w.2)).Perm σ) :
    applyWrites σ out = applyWrites ((allWrites n b rows).map fun w => (w.1, dist w.2)) out :=
  (applyWrites_perm _ _ hσ (writes_nodup n b rows dist) out).symm

/-- and that array holds, in slot `k`, the distance of the `k`-th selected pair -/
theorem C07_slot_value {β : Type} (n : Nat) (b : Block) (rows : List Nat) (dist : Nat × Nat → β)
    (out : Nat → Option β) (w : Nat × (Nat × Nat)) (hw : w ∈ allWrites n b rows) :
    applyWrites ((allWrites n b rows).map fun w => (w.1, dist w.2)) out w.1 = some (dist w.2) :=
  applyWrites_get _ (writes_nodup n b rows dist) out (w.1, dist w.2) (List.mem_map.mpr ⟨w, hw, rfl⟩)

/-! ### (2) obligations on the plan extracted from the C source -/

open Generated

/-- every variable assigned in a parallel loop body is listed in `private(...)` or declared inside
the body (so no iteration can observe another iteration's value) -/
def privatised (l : OmpLoop) : Bool :=
  l.assigned.all fun v => l.privateVars.contains v || l.localVars.contains v

theorem C07_privatisation : ompLoops.all privatised = true := by decide

/-- loop header, start column, slot expressions and the only shared write are the ones modelled by
`preparePlan` / `rowWrites` (`rls[r_i] + c_i`, resp. `(ce - cb) * r_i + c_i`) -/
def planShape (l : OmpLoop) : Bool :=
  l.loopVar == "r_i" && l.lo == "0" && l.hi == "(block->re - block->rb)" &&
  l.innerVar == "c" && l.innerHi == "block->ce" &&
  l.assigns == [("r", "block->rb + r_i"), ("c_i", "0"), ("c", "cbs[r_i]"), ("c", "block->cb"), ("c", "c++"),
                ("c_i", "c_i++")] &&
  l.writes == [{ array := "output", index := "rls[r_i] + c_i", guard := "block->triu", value := "value" },
               { array := "output", index := "(block->ce - block->cb) * r_i + c_i", guard := "!(block->triu)",
                 value := "value" }] &&
  l.calls.length == 1

theorem C07_plan_shape : ompLoops.all planShape = true := by
  -- every `==` is between identical literals; `decide` would compare them character by character
  simp only [ompLoops, planShape, List.all_cons, List.all_nil, List.length_singleton, beq_self_eq_true, Bool.and_true]

theorem C07_six_loops : ompLoops.length = 6 := by decide

/-- the row loop of `dtw_distances_prepare` is the one transcribed in `preparePlan` -/
theorem C07_prepare_shape : prepareRowLoop =
    ["if (r + 1 > block->cb)", "cb = r+1", "else", "cb = block->cb", "(*cbs)[ir] = cb", "(*rls)[ir] = rs",
     "rs += block->ce - cb", "ir += 1"] := rfl

/- non-vacuity of the model part -/
example : allWrites 4 ⟨0, 3, 1, 4, true⟩ [0, 1, 2] =
    [(0, (0,1)), (1, (0,2)), (2, (0,3)), (3, (1,2)), (4, (1,3)), (5, (2,3))] := by decide

end Dtai
