/-
Props/C10.lean — C10: identity, non-negativity, symmetry and option monotonicity of DTW.
All statements are about `dtwSpec`, which both engines return (C01_distance_eq_spec, C02_distC_eq_spec).
-/
import Dtaiverif.Proofs.Laws
import Dtaiverif.Proofs.Bounds
import Dtaiverif.Proofs.CostInst

namespace Dtai
variable {α : Type} [LinearOrderedAddCommMonoidWithTop α]

theorem C10_nonneg (g : Grid α) (h : g.NonNeg) : 0 ≤ dtwSpec g := dtwSpec_nonneg g h

/-- swapping the two series together with the per-series psi entries leaves the distance unchanged
(this is what makes mirroring the upper triangle of a distance matrix valid) -/
theorem C10_symm (g : Grid α) : dtwSpec g.transpose = dtwSpec g := dtwSpec_transpose g

/-- general form of all option-monotonicity laws -/
theorem C10_relax (g' g : Grid α) (h : Relaxes g' g) (h1 : g.psi1e ≤ g'.psi1e) (h2 : g.psi2e ≤ g'.psi2e) :
    dtwSpec g' ≤ dtwSpec g := dtwSpec_mono g' g h h1 h2

theorem ok_window_mono (g : Grid α) (w' : Nat) (hw : g.window ≤ w') (i j : Nat)
    (h : g.ok i j = true) : ({ g with window := w' } : Grid α).ok i j = true := by
  simp only [ok_iff, inBand_iff] at *
  exact ⟨by omega, h.2⟩

/-- a larger window never increases the distance -/
theorem C10_window_mono (g : Grid α) (w' : Nat) (hw : g.window ≤ w') :
    dtwSpec ({ g with window := w' } : Grid α) ≤ dtwSpec g :=
  dtwSpec_mono _ g { Relaxes.refl g with ok := ok_window_mono g w' hw } le_rfl le_rfl

/-- more psi-relaxation never increases the distance -/
theorem C10_psi_mono (g : Grid α) (p1b p1e p2b p2e : Nat)
    (h1b : g.psi1b ≤ p1b) (h1e : g.psi1e ≤ p1e) (h2b : g.psi2b ≤ p2b) (h2e : g.psi2e ≤ p2e) :
    dtwSpec ({ g with psi1b := p1b, psi1e := p1e, psi2b := p2b, psi2e := p2e } : Grid α) ≤ dtwSpec g :=
  dtwSpec_mono _ g
    { Relaxes.refl g with
      b0 := fun _ => ite_zero_top_le fun hJ => hJ.trans h2b
      bc := fun _ => ite_zero_top_le fun hI => hI.trans h1b } h1e h2e

/-- relaxing max_step never increases the distance -/
theorem C10_maxstep_mono (g : Grid α) (m' : α) (hm : g.maxStep ≤ m') :
    dtwSpec ({ g with maxStep := m' } : Grid α) ≤ dtwSpec g := by
  refine dtwSpec_mono _ g { Relaxes.refl g with ok := fun i j h => ?_ } le_rfl le_rfl
  rw [ok_iff] at *
  exact ⟨h.1, le_trans h.2 hm⟩

/-- a larger penalty never decreases the distance -/
theorem C10_penalty_mono (g : Grid α) (p' : α) (hp : p' ≤ g.pen) :
    dtwSpec ({ g with pen := p' } : Grid α) ≤ dtwSpec g :=
  dtwSpec_mono _ g { Relaxes.refl g with pen := hp } le_rfl le_rfl

/-- the distance of a series to itself is zero -/
theorem C10_self_zero (g : Grid α) (h : g.NonNeg) (hr : 1 ≤ g.r) (heq : g.r = g.c) (hw : 1 ≤ g.window)
    (hms : g.maxStep = ⊤) (hself : ∀ i, g.cost i i = 0) : dtwSpec g = 0 := by
  apply le_antisymm _ (dtwSpec_nonneg g h)
  have hz : ∀ n, lbUpTo (fun i => g.cost i i) n = 0 := fun n => by
    induction n with
    | zero => exact hself 0
    | succ n ih => rw [lbUpTo, hself, ih, add_zero]
  rw [← hz (g.r - 1), ← edSum_diag g hr heq]
  exact dtw_le_ed g h hr (by omega) hw hms (Or.inr heq)

/-- with window 1 on equal-length series (no psi, no max_step) DTW equals the Euclidean distance -/
theorem C10_window1_eq_ed (g : Grid α) (h : g.NonNeg) (hr : 1 ≤ g.r) (heq : g.r = g.c) (hw : g.window = 1)
    (hms : g.maxStep = ⊤) (hpsi : g.psi1b = 0 ∧ g.psi1e = 0 ∧ g.psi2b = 0 ∧ g.psi2e = 0) :
    dtwSpec g = edSum g.cost g.r g.c := by
  apply le_antisymm (dtw_le_ed g h hr (by omega) (by omega) hms (Or.inr heq))
  rw [edSum_diag g hr heq]
  -- with window 1 the only admissible cell of row `i` is `(i, i)`
  refine lb_le_dtw g h ⟨hr, by omega, by omega, by omega⟩ (fun i => g.cost i i) (fun i j hok => ?_) hpsi.1 hpsi.2.1
  have hb := (inBand_iff g i j).mp ((ok_iff g i j).mp hok).1
  rw [show j = i by omega]

/- non-vacuity: window monotonicity on a concrete grid -/
def exGrid10 : Grid Cost :=
  { r := 4, c := 4, window := 1, pen := 0, maxStep := .inf, psi1b := 0, psi1e := 0, psi2b := 0, psi2e := 0,
    cost := fun i j => .fin (if i = j then 3 else if j = i + 1 then 0 else 2) }
example : dtwSpec exGrid10 = .fin 12 ∧ dtwSpec { exGrid10 with window := 2 } = .fin 6 := by decide +kernel

end Dtai
