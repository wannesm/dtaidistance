/-
Props/PyBand.lean — the integer arithmetic of the pure-Python kernels, as re-translated from /repo's
`dtw.py` on every run (`Generated/PyBand.lean`, by `translate/py_band.py`), against the model.

* the band limits of `distance`, `warping_paths` and `warping_paths_affinity` are the band of the model
  (`Grid.jStart/jEnd`, `AffGrid.jStart/jEnd`) — C01, C03, C04, C18 all reason about that band;
* the pruning adjustment `if sc > j_start: j_start = sc` is `max`;
* every subscript applied to the two-row rolling buffer of `distance` addresses the row it is meant to
  address (`i0`/`i1` times `length` plus an offset in `[0, length)`), for every pair of lengths, every
  window ≥ 1 and every row/column inside the band.  A negative subscript would not raise in Python (it
  wraps around), so this is a property no run of the code would reveal by an exception.

The theorems are about the *translated* functions: when the expressions in the source change, the
functions change with them and the proofs are re-checked against what the code says now.
-/
import Dtaiverif.Generated.PyBand
import Dtaiverif.Model.Dtw
import Dtaiverif.Model.Affinity
import Dtaiverif.Proofs.Rolling

namespace Dtai
open Gen.PyBand

/-- `max(0, i - max(0, r - c) - window + 1)` and `min(c, i + max(0, c - r) + window)`, which dtw.py computes
in the integers, are the truncated natural-number expressions of the model. Every band below is these two. -/
theorem pyBand_cast (i r c w : Nat) :
    max (0 : Int) ((i : Int) - max 0 ((r : Int) - c) - w + 1) = ((i + 1 - (r - c) - w : Nat) : Int) ∧
    min (c : Int) ((i : Int) + max 0 ((c : Int) - r) + w) = ((min c (i + (c - r) + w) : Nat) : Int) := by
  constructor <;> omega

section band
variable {α : Type} [Add α] [Min α] [LE α] [DecidableLE α] [Zero α] [HasTop α]

/-- `dtw.distance`: `j_start`, `j_end` of row `i` are the model's band -/
theorem PyBand_distance (g : Grid α) (i : Nat) (e : Env) (hi : e.i = i) (hr : e.r = g.r) (hc : e.c = g.c)
    (hw : e.window = g.window) :
    distance_j_start_0 e = (g.jStart i : Int) ∧ distance_j_end_0 e = (g.jEnd i : Int) := by
  simp only [distance_j_start_0, distance_j_end_0, hi, hr, hc, hw]
  exact pyBand_cast i g.r g.c g.window

/-- `dtw.warping_paths`: the same band -/
theorem PyBand_warping_paths (g : Grid α) (i : Nat) (e : Env) (hi : e.i = i) (hr : e.r = g.r) (hc : e.c = g.c)
    (hw : e.window = g.window) :
    warping_paths_j_start_0 e = (g.jStart i : Int) ∧ warping_paths_j_end_0 e = (g.jEnd i : Int) :=
  PyBand_distance g i e hi hr hc hw

end band

/-- the pruning adjustment of the first column is a maximum (`let js := max (g.jStart i) sc` in the model) -/
theorem PyBand_pruned_start (e : Env) :
    (if distance_j_start_1_cond e then distance_j_start_1 e else e.j_start) = max e.j_start e.sc ∧
    (if warping_paths_j_start_1_cond e then warping_paths_j_start_1 e else e.j_start) = max e.j_start e.sc := by
  simp only [distance_j_start_1_cond, distance_j_start_1, warping_paths_j_start_1_cond, warping_paths_j_start_1,
    decide_eq_true_eq]
  constructor <;> split <;> omega

section aff
variable {β : Type} [Add β] [Sub β] [Mul β] [Max β] [LT β] [DecidableLT β] [Zero β]

/-- `dtw.warping_paths_affinity`: band with the `only_triu` adjustment = the affinity model's band -/
theorem PyBand_affinity (g : AffGrid β) (i : Nat) (e : Env) (hi : e.i = i) (hr : e.r = g.r) (hc : e.c = g.c)
    (hw : e.window = g.window) (ht : (e.only_triu ≠ 0) ↔ g.onlyTriu = true) :
    (let e1 : Env := { e with j_start := warping_paths_affinity_j_start_0 e }
     if warping_paths_affinity_j_start_1_cond e1 then warping_paths_affinity_j_start_1 e1 else e1.j_start)
      = (g.jStart i : Int) ∧
    warping_paths_affinity_j_end_0 e = (g.jEnd i : Int) := by
  obtain ⟨hs, he⟩ := pyBand_cast i g.r g.c g.window
  constructor
  · simp only [warping_paths_affinity_j_start_0, warping_paths_affinity_j_start_1_cond,
      warping_paths_affinity_j_start_1, AffGrid.jStart, hi, hr, hc, hw, decide_eq_true_eq, hs]
    by_cases h : g.onlyTriu = true
    · rw [if_pos (ht.mpr h), if_pos h]; omega
    · rw [if_neg (mt ht.mp h), if_neg h]
  · simp only [warping_paths_affinity_j_end_0, AffGrid.jEnd, hi, hr, hc, hw, he]

end aff

/-! ### the rolling buffer of `dtw.distance` -/

/-- the environment of row `i`, column `j` of `distance(s1, s2)` with `len(s1) = r`, `len(s2) = c`,
window `w`: `length` as assigned before the loop; `skip` as assigned in row `i` (the expression, then
`0` when the buffer holds whole rows); `skipp` the value `skip` had in the previous row (initially `0`) -/
def pyLength (r c w : Nat) : Int := distance_length_0 { r := r, c := c, window := w }

def pySkip (r c w i : Nat) : Int :=
  let e : Env := { i := i, r := r, c := c, window := w, length := pyLength r c w }
  if distance_skip_2_cond e then distance_skip_2 e else distance_skip_1 e

def pySkipPrev (r c w i : Nat) : Int :=
  if i = 0 then distance_skip_0 {} else pySkip r c w (i - 1)

def pyEnv (r c w i j : Nat) (i0 i1 : Int) : Env :=
  { i := i, j := j, r := r, c := c, window := w, length := pyLength r c w, skip := pySkip r c w i,
    skipp := pySkipPrev r c w i, i0 := i0, i1 := i1,
    j_start := distance_j_start_0 { i := i, r := r, c := c, window := w },
    j_end := distance_j_end_0 { i := i, r := r, c := c, window := w } }

/-! The buffer of dtw.py is the buffer of dd_dtw.c: length, band and offsets are those of `Model/Rolling`, so
the theorems below are the two of `Proofs/Rolling`, read in the integers. -/

theorem pyLength_roll (r c w : Nat) : pyLength r c w = ((⟨r, c, w⟩ : Roll).length : Int) := by
  simp only [pyLength, distance_length_0, Roll.length, Roll.ldiff_eq]; omega

theorem pyBand_roll {r c w : Nat} (i : Nat) (hw : 1 ≤ w) :
    distance_j_start_0 { i := i, r := r, c := c, window := w } = ((⟨r, c, w⟩ : Roll).maxj i : Int) ∧
    distance_j_end_0 { i := i, r := r, c := c, window := w } = ((⟨r, c, w⟩ : Roll).minj i : Int) := by
  simp only [distance_j_start_0, distance_j_end_0, Roll.maxj_eq ⟨r, c, w⟩ hw, Roll.minj_eq]
  exact pyBand_cast i r c w

theorem pySkip_roll {r c w : Nat} (i : Nat) (hw : 1 ≤ w) : pySkip r c w i = ((⟨r, c, w⟩ : Roll).skip i : Int) := by
  simp only [pySkip, distance_skip_2_cond, distance_skip_2, distance_skip_1, Roll.skip, pyLength_roll,
    Roll.maxj_eq ⟨r, c, w⟩ hw, decide_eq_true_eq]
  split_ifs <;> omega

theorem pySkipPrev_roll {r c w : Nat} (i : Nat) (hw : 1 ≤ w) :
    pySkipPrev r c w i = ((⟨r, c, w⟩ : Roll).skipp i : Int) := by
  unfold pySkipPrev Roll.skipp
  split
  · rfl
  · exact pySkip_roll (i - 1) hw

/-- **inner loop**: for every row `i < r` and every column `j` of the band of that row, the four cells the
recurrence touches lie inside the row they are meant to address: the written cell and its left neighbour in
row `i1`, the diagonal and upper neighbours in row `i0` -/
theorem PyBand_rolling_inner (r c w i j : Nat) (i0 i1 : Int) (hw : 1 ≤ w) (hi : i < r)
    (hlo : (pyEnv r c w i j i0 i1).j_start ≤ j) (hhi : (j : Int) < (pyEnv r c w i j i0 i1).j_end) :
    let e := pyEnv r c w i j i0 i1
    (e.i1 * e.length ≤ distance_sub_3 e ∧ distance_sub_3 e < e.i1 * e.length + e.length) ∧
    (e.i0 * e.length ≤ distance_sub_4 e ∧ distance_sub_4 e < e.i0 * e.length + e.length) ∧
    (e.i0 * e.length ≤ distance_sub_5 e ∧ distance_sub_5 e < e.i0 * e.length + e.length) ∧
    (e.i1 * e.length ≤ distance_sub_6 e ∧ distance_sub_6 e < e.i1 * e.length + e.length) ∧
    (e.i1 * e.length ≤ distance_sub_7 e ∧ distance_sub_7 e < e.i1 * e.length + e.length) := by
  simp only [pyEnv, pyBand_roll i hw, Int.ofNat_le, Int.ofNat_lt] at hlo hhi
  have := rolling_in_row ⟨r, c, w⟩ hw i j hlo hhi
  simp only [pyEnv, distance_sub_3, distance_sub_4, distance_sub_5, distance_sub_6, distance_sub_7,
    pyLength_roll, pySkip_roll _ hw, pySkipPrev_roll _ hw]
  omega

/-- **psi on the last column**: `dtw[i1 * length + j_end - skip]` (read when `j_end == len(s2)`) lies in row `i1` -/
theorem PyBand_rolling_psi (r c w i : Nat) (i0 i1 : Int) (hw : 1 ≤ w) (hi : i < r)
    (hend : (pyEnv r c w i 0 i0 i1).j_end = c) :
    let e := pyEnv r c w i 0 i0 i1
    e.i1 * e.length ≤ distance_sub_8 e ∧ distance_sub_8 e < e.i1 * e.length + e.length := by
  simp only [pyEnv, pyBand_roll i hw, Int.natCast_inj] at hend
  have := rolling_row_end ⟨r, c, w⟩ hw i hi hend
  dsimp only at this
  simp only [pyEnv, distance_sub_8, pyBand_roll i hw, hend, pyLength_roll, pySkip_roll _ hw]
  omega

/-- **the result cell and the psi slice after the loop** (`i = r - 1`): the cell
`dtw[i1*length + min(c, c + window - 1) - skip]` and the slice `[max(0, ic - psi_2e), ic + 1)` lie in row `i1` -/
theorem PyBand_rolling_result (r c w psi2e : Nat) (i0 i1 : Int) (hw : 1 ≤ w) (hr : 1 ≤ r) :
    let e0 := pyEnv r c w (r - 1) 0 i0 i1
    let e : Env := { e0 with psi_2e := psi2e, ic := distance_ic_0 e0 }
    (e.i1 * e.length ≤ distance_sub_9 e ∧ distance_sub_9 e < e.i1 * e.length + e.length) ∧
    (e.i1 * e.length ≤ distance_sub_12 e ∧ distance_sub_12 e < e.i1 * e.length + e.length) ∧
    (e.i1 * e.length ≤ distance_sub_10 e ∧ distance_sub_10 e ≤ distance_sub_11 e ∧
      distance_sub_11 e ≤ e.i1 * e.length + e.length) := by
  have := rolling_last_row_scan ⟨r, c, w⟩ hr hw
  dsimp only at this
  simp only [pyEnv, distance_ic_0, distance_sub_9, distance_sub_10, distance_sub_11, distance_sub_12,
    pyLength_roll, pySkip_roll _ hw]
  omega

/-- **initialisation loops**: `dtw[i]` for `i < min(psi_2b + 1, length)`, `dtw[ii]` for `ii` in row `i1`, and
`dtw[i1 * length]` stay inside the `2 * length` cells of the buffer (`i1 ∈ {0, 1}`) -/
theorem PyBand_rolling_init (r c w : Nat) (i1 : Int) (e : Env) (hw : 1 ≤ w) (h1 : i1 = 0 ∨ i1 = 1)
    (hl : e.length = pyLength r c w) (he1 : e.i1 = i1) :
    (distance_loop_0_lo e ≤ e.i → e.i < distance_loop_0_hi e → 0 ≤ distance_sub_0 e ∧ distance_sub_0 e < 2 * e.length) ∧
    (distance_loop_2_lo e ≤ e.ii → e.ii < distance_loop_2_hi e → 0 ≤ distance_sub_1 e ∧ distance_sub_1 e < 2 * e.length) ∧
    (0 ≤ distance_sub_2 e ∧ distance_sub_2 e < 2 * e.length) := by
  have hp : 1 ≤ e.length := by rw [hl, pyLength_roll, Roll.length]; omega
  simp only [distance_loop_0_lo, distance_loop_0_hi, distance_loop_2_lo, distance_loop_2_hi, distance_sub_0,
    distance_sub_1, distance_sub_2, he1]
  rcases h1 with rfl | rfl <;> omega

/-! ### `dp.dp`, the routine behind `needleman_wunsch` -/

/-- the environment of `dp(s1, s2)` called without a window, in row `i0` -/
def dpEnv (r c i0 : Nat) : Env :=
  let e0 : Env := { r := r, c := c, i0 := i0, window_is_none := 1 }
  { e0 with window := if dp_window_0_cond e0 then dp_window_0 e0 else e0.window }

/-- without a window every row of the score matrix is filled over all columns `0 … c-1` -/
theorem PyBand_dp_full_rows (r c i0 : Nat) (hi : i0 < r) :
    dp_cols_lo (dpEnv r c i0) = 0 ∧ dp_cols_hi (dpEnv r c i0) = c := by
  -- `window is None`, so the window is `max(r, c)`
  show max 0 ((i0 : Int) - max 0 ((r : Int) - c) - max (r : Int) c + 1) = 0 ∧
    min (c : Int) (i0 + max 0 ((c : Int) - r) + max (r : Int) c) = c
  constructor <;> omega

/-- … and the value is read from the last column `c` of the last row — also when a sequence is empty: for
`r = c = 0` the index is `-1`, which Python wraps to the only column of that row (`-1 mod 1 = 0`) -/
theorem PyBand_dp_readout (r c : Nat) :
    -((c : Int) + 1) ≤ dp_readout_col (dpEnv r c 0) ∧ dp_readout_col (dpEnv r c 0) % ((c : Int) + 1) = c := by
  show -((c : Int) + 1) ≤ min (c : Int) (c + max (r : Int) c - 1) ∧
    min (c : Int) (c + max (r : Int) c - 1) % ((c : Int) + 1) = c
  rcases Nat.eq_zero_or_pos (max r c) with h | h
  · obtain ⟨rfl, rfl⟩ : r = 0 ∧ c = 0 := by omega
    decide
  · rw [Int.min_eq_left (by omega)]
    exact ⟨by omega, Int.emod_eq_of_lt (by omega) (by omega)⟩

/-- the translated items are exactly the ones the theorems above speak about (a new assignment to a band
variable, a new subscript or a new loop in the source must be looked at) -/
theorem PyBand_items_pinned :
    Gen.PyBand.items.map (·.1) =
      ["distance_length_0", "distance_skip_0", "distance_skip_1", "distance_j_start_0", "distance_j_end_0",
       "distance_j_start_1", "distance_skip_2", "distance_ic_0", "warping_paths_j_start_0", "warping_paths_j_end_0",
       "warping_paths_j_start_1", "warping_paths_affinity_j_start_0", "warping_paths_affinity_j_start_1",
       "warping_paths_affinity_j_end_0", "lb_keogh_imin_diff_0", "lb_keogh_imax_diff_0", "lb_keogh_imin_0",
       "lb_keogh_imax_0", "dp_window_0", "dp_cols", "dp_readout_col"] ∧
    Gen.PyBand.distanceSubscripts.length = 13 ∧ Gen.PyBand.distanceLoops.length = 4 := ⟨rfl, rfl, rfl⟩

/- non-vacuity: a concrete row of a concrete pair satisfies the hypotheses of the inner-loop theorem -/
example : (pyEnv 7 4 2 5 3 0 1).j_start ≤ 3 ∧ (3 : Int) < (pyEnv 7 4 2 5 3 0 1).j_end := by decide
example : pyLength 7 4 2 = 5 ∧ pySkip 7 4 2 5 = 0 ∧ pyLength 9 30 2 = 26 ∧ pySkip 9 30 2 5 = 4 := by decide

end Dtai
