/-
Props/C16.lean — C16: DBA k-means returns k clusters covering all series, nearest mean each.

Model: `Model/KMeans.lean`.  The table `table[i][j]` is the DTW distance of series `i` to mean `j` for the
means held when the final assignment is made (arbitrary values of a linear order with top: ties and
duplicates included).  The only hypothesis is the one under which the implementation's `-1` start value
cannot survive: every row has `k` entries and at least one of them is finite.
-/
import Dtaiverif.Proofs.GridDP
import Dtaiverif.Model.KMeans
import Dtaiverif.Proofs.CostInst

namespace Dtai
variable {α : Type} [LinearOrderedAddCommMonoidWithTop α]

/-- the scan of `nearestAux` is a `minOn` fold over the candidates `(some index, distance)` -/
theorem nearestAux_eq (ds : List α) (i : Nat) (acc : Option Nat × α) :
    nearestAux ds i acc = ((ds.zipIdx i).map fun p => (some p.2, p.1)).foldl (minOn Prod.snd) acc := by
  induction ds generalizing i acc with
  | nil => rfl
  | cons d ds ih => simp only [nearestAux, ih, List.zipIdx_cons, List.map_cons, List.foldl_cons, minOn, ite_not]

/-- `nearest` is the standard library's first minimum of the start value `(-1, inf)` followed by the
candidates -/
theorem nearest_eq (ds : List α) :
    nearest ds = ((none, ⊤) :: ds.zipIdx.map fun p => (some p.2, p.1)).minOn Prod.snd (List.cons_ne_nil _ _) :=
  nearestAux_eq ds 0 _

/-- Either the start value survives and every distance is infinite, or the scan returns the first
position of the (finite) minimum. -/
theorem nearest_cases (ds : List α) :
    (nearest ds = (none, ⊤) ∧ ∀ d ∈ ds, d = ⊤) ∨
    ∃ (j : Nat) (h : j < ds.length), nearest ds = (some j, ds[j]) ∧ ds[j] ≠ ⊤ ∧ (∀ d ∈ ds, ds[j] ≤ d) ∧
      ∀ (j' : Nat) (h' : j' < j), ds[j] < ds[j'] := by
  have hne := List.cons_ne_nil ((none, ⊤) : Option Nat × α) (ds.zipIdx.map fun p => (some p.2, p.1))
  have hle : ∀ d ∈ ds, (nearest ds).2 ≤ d := by
    intro d hd
    obtain ⟨k, hk⟩ := List.getElem?_of_mem hd
    rw [nearest_eq]
    exact List.apply_minOn_le_of_mem (f := Prod.snd) (List.mem_cons_of_mem _
      (List.mem_map.mpr ⟨(d, k), List.mem_zipIdx_iff_getElem?.mpr hk, rfl⟩))
  -- `m` is the position of `nearest ds` in the list: `0` for the start value, `j + 1` for candidate `j`
  obtain ⟨hm, hget, hfirst⟩ := (List.minIdxOn_eq_iff_eq_minOn (f := Prod.snd) hne).mp rfl
  rw [← nearest_eq] at hget hfirst
  generalize List.minIdxOn Prod.snd _ hne = m at hm hget hfirst
  cases m with
  | zero =>
    rw [List.getElem_cons_zero] at hget
    rw [← hget] at hle
    exact Or.inl ⟨hget.symm, fun d hd => top_le_iff.mp (hle d hd)⟩
  | succ j =>
    simp only [List.getElem_cons_succ, List.getElem_map, List.getElem_zipIdx, Nat.zero_add] at hget
    simp only [List.length_cons, List.length_map, List.length_zipIdx, Nat.add_lt_add_iff_right] at hm
    rw [← hget] at hle hfirst
    refine Or.inr ⟨j, hm, hget.symm, ne_of_lt (hfirst 0 (Nat.succ_pos j)), hle, fun j' hj' => ?_⟩
    simpa using hfirst (j' + 1) (Nat.succ_lt_succ hj')

/-- **Nearest mean, first among ties.** If some distance in the row is finite the scan returns an index
`j` inside the row whose distance is finite, minimal over the row, and strictly smaller than all earlier
ones. -/
theorem C16_nearest (row : List α) (hfin : ∃ d ∈ row, d ≠ ⊤) :
    ∃ j v, nearest row = (some j, v) ∧ j < row.length ∧ row[j]? = some v ∧ v ≠ ⊤ ∧
      (∀ d ∈ row, v ≤ d) ∧ ∀ j' d, j' < j → row[j']? = some d → v < d := by
  rcases nearest_cases row with ⟨_, hall⟩ | ⟨j, hj, heq, hne, hle, hfirst⟩
  · obtain ⟨d, hd, hne⟩ := hfin
    exact absurd (hall d hd) hne
  · refine ⟨j, row[j], heq, hj, List.getElem?_eq_getElem hj, hne, hle, fun j' d hj' hd => ?_⟩
    obtain ⟨_, rfl⟩ := List.getElem?_eq_some_iff.mp hd
    exact hfirst j' hj'

/-- the `-1` start value survives exactly when every distance of the row is infinite -/
theorem C16_unassigned_iff (row : List α) : (nearest row).1 = none ↔ ∀ d ∈ row, d = ⊤ := by
  rcases nearest_cases row with ⟨heq, hall⟩ | ⟨j, hj, heq, hne, _⟩
  · simpa [heq] using hall
  · simp only [heq, reduceCtorEq, false_iff]
    exact fun hall => hne (hall _ (List.getElem_mem hj))

theorem mem_clustersOf (k : Nat) (assign : List (Option Nat)) (j i : Nat) (hj : j < k) :
    i ∈ (clustersOf k assign).getD j [] ↔ assign[i]? = some (some j) := by
  rw [clustersOf, getD_map_range _ hj, List.mem_filter, List.mem_range, beq_iff_eq]
  exact and_iff_right_of_imp fun h => (List.getElem?_eq_some_iff.mp h).1

/-- **k clusters that partition all series, nearest mean each.** For a table with `n` rows of `k`
distances, each row containing a finite distance: there are exactly `k` clusters; every series `i < n`
belongs to exactly one of them, `j`; and the mean `j` is nearest to it (no mean is closer). -/
theorem C16_partition_nearest (k : Nat) (table : List (List α))
    (hrow : ∀ row ∈ table, row.length = k ∧ ∃ d ∈ row, d ≠ ⊤) :
    (clustersOf k (assignAll table)).length = k ∧
    ∀ i row, table[i]? = some row →
      ∃ j, j < k ∧ (∀ j', j' < k → (i ∈ (clustersOf k (assignAll table)).getD j' [] ↔ j' = j)) ∧
        ∃ v, row[j]? = some v ∧ ∀ d ∈ row, v ≤ d := by
  refine ⟨by simp [clustersOf], ?_⟩
  intro i row hi
  obtain ⟨hlen, hfin⟩ := hrow row (List.mem_of_getElem? hi)
  obtain ⟨j, v, hn, hj, hv, _, hmin, _⟩ := C16_nearest row hfin
  have hassign : (assignAll table)[i]? = some (some j) := by
    simp [assignAll, List.getElem?_map, hi, hn]
  refine ⟨j, by omega, ?_, v, hv, hmin⟩
  intro j' hj'
  rw [mem_clustersOf k _ j' i hj', hassign, Option.some.injEq, Option.some.injEq, eq_comm]

/-- every index placed in a cluster is an index of a series (`< n`), so the clusters cover exactly
`0 … n-1` -/
theorem C16_members_lt (k : Nat) (table : List (List α)) (j i : Nat) (hj : j < k)
    (h : i ∈ (clustersOf k (assignAll table)).getD j []) : i < table.length := by
  simpa [assignAll] using (List.getElem?_eq_some_iff.mp ((mem_clustersOf k _ j i hj).mp h)).1

theorem loopCount_le (fuel : Nat) (stop : Nat → Bool) (it : Nat) : loopCount fuel stop it ≤ fuel := by
  induction fuel generalizing it with
  | zero => simp [loopCount]
  | succ fuel ih =>
    simp only [loopCount]
    split
    · omega
    · have := ih (it + 1); omega

/-- **Iteration count**: whatever makes the loop stop (unchanged assignment, unchanged means, the
monitor function), `performed_it ≤ max_it + 1` -/
theorem C16_iterations (maxIt : Nat) (stop : Nat → Bool) : performedIt maxIt stop ≤ maxIt + 1 := by
  have := loopCount_le maxIt stop 0
  simp only [performedIt]; omega

/-- non-vacuity: ties, an infinite entry, three means -/
example : assignAll ([[.fin 3, .fin 1, .fin 1], [.inf, .fin 7, .fin 2], [.fin 0, .fin 0, .inf]] : List (List Cost))
    = [some 1, some 2, some 0] := by decide +kernel

end Dtai
