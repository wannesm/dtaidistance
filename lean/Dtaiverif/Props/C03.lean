/-
Props/C03.lean — C03: early abandoning (max_dist, use_pruning) never changes a result.
`m` is the threshold in internal representation (`adj_max_dist`); `dtwSpec g` the unbounded optimum.
The same kernel model serves `distance`, `warping_paths` (Python) and the C kernels.
-/
import Dtaiverif.Proofs.Dist
import Dtaiverif.Proofs.CostInst
import Dtaiverif.Props.PyBand

namespace Dtai
variable {α : Type} [LinearOrderedAddCommMonoidWithTop α]

/-- below (or at) the threshold: exactly the unbounded distance -/
theorem C03_below (g : Grid α) (h : g.NonNeg) (m : α) (chk : Bool) (hle : dtwSpec g ≤ m) :
    distModel g m none chk = dtwSpec g :=
  distModel_eq_of_le g h m chk hle

/-- above the threshold: infinity -/
theorem C03_above (g : Grid α) (h : g.NonNeg) (m : α) (hm : ¬ m ≤ 0) (hgt : ¬ dtwSpec g ≤ m) :
    distModel g m none true = ⊤ :=
  distModel_top_of_gt g h m hm hgt

/-- never a different finite number -/
theorem C03_never_other (g : Grid α) (h : g.NonNeg) (m : α) (hm : ¬ m ≤ 0) :
    distModel g m none true = dtwSpec g ∨ distModel g m none true = ⊤ := by
  by_cases hle : dtwSpec g ≤ m
  · exact Or.inl (C03_below g h m true hle)
  · exact Or.inr (C03_above g h m hm hle)

/-- accumulated-cost matrix routines: every cell over-estimates the optimum of its partial paths and
is exact whenever that optimum is `≤ m` (cells above the bound may hold anything above it or `⊤`) -/
theorem C03_cells (g : Grid α) (h : g.NonNeg) (m : α) (n I J : Nat) (hI : I ≤ n) (hJ : J ≤ g.c) :
    D g I J ≤ cellOf (matP g m n) I J ∧ (D g I J ≤ m → cellOf (matP g m n) I J = D g I J) :=
  ⟨(matP_rel g h m n I J hI hJ).le, (matP_rel g h m n I J hI hJ).eq⟩

/-- `use_pruning` (threshold = any valid upper bound `ub ≥ dtwSpec`, e.g. the Euclidean distance, see
C09) yields exactly the result obtained with pruning disabled — *including* the equality case
`dtwSpec = ub` (the comparison in the kernel is strict). Holds with or without the final check. -/
theorem C03_pruning_exact (g : Grid α) (h : g.NonNeg) (ub : α) (chk chk' : Bool) (hub : dtwSpec g ≤ ub) :
    distModel g ub none chk = distModel g ⊤ none chk' :=
  (distModel_eq_of_le g h ub chk hub).trans (distModel_eq_of_le g h ⊤ chk' le_top).symm

/-- `max_dist` **and** `use_pruning` together: whenever the kernel's threshold `mK` is a valid upper
bound (the Euclidean distance, C09) the user's threshold `mF` still decides — the result is the
unbounded distance when that is `≤ mF` and infinity otherwise. Covers the C engine (`mK = ub`,
`mF = max_dist`) and the Python engine (`mK = mF = min(max_dist, ub)`, see `C03_both_python`). -/
theorem C03_both (g : Grid α) (h : g.NonNeg) (mK mF : α) (hub : dtwSpec g ≤ mK) (hm : ¬ mF ≤ 0) :
    distModelBoth g mK mF none = if dtwSpec g ≤ mF then dtwSpec g else ⊤ := by
  simp only [distModelBoth, (endMin_matP_rel g h mK).eq hub]
  by_cases hle : dtwSpec g ≤ mF
  · rw [if_pos hle, finalCheck_of_le _ _ hle]
  · rw [if_neg hle, finalCheck_of_not_le _ _ hm hle]

theorem C03_both_python (g : Grid α) (h : g.NonNeg) (ub mF : α) (hub : dtwSpec g ≤ ub) (hm : ¬ mF ≤ 0)
    (hub0 : ¬ ub ≤ 0) :
    distModel g (min mF ub) none true = if dtwSpec g ≤ mF then dtwSpec g else ⊤ := by
  by_cases hle : dtwSpec g ≤ mF
  · rw [if_pos hle]; exact C03_below g h _ true (le_min hle hub)
  · rw [if_neg hle]
    exact C03_above g h _ (fun h0 => by rcases min_le_iff.mp h0 with h1 | h1 <;> contradiction)
      (fun h0 => hle (h0.trans (min_le_left _ _)))

theorem C03_at_driver_domain (g : Grid Cost) (h : g.NonNeg) (m : Nat) (hm : 0 < m) :
    distModel g (.fin m) none true = dtwSpec g ∨ distModel g (.fin m) none true = Cost.inf :=
  C03_never_other g h (.fin m) (by simp [Cost.le_def, Cost.le]; omega)

/- non-vacuity: thresholds on both sides of a concrete optimum -/
def exGrid3 : Grid Cost :=
  { r := 3, c := 3, window := 3, pen := 0, maxStep := .inf, psi1b := 0, psi1e := 0, psi2b := 0, psi2e := 0,
    cost := fun i j => .fin ((i + 2 * j) % 3 + 1) }
example : dtwSpec exGrid3 = .fin 3 := by decide +kernel
example : distModel exGrid3 (.fin 3) none true = .fin 3 := by decide +kernel
example : distModel exGrid3 (.fin 2) none true = .inf := by decide +kernel

end Dtai
