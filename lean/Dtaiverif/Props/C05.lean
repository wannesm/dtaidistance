/-
Props/C05.lean — C05: a reported best path is a valid warping path that achieves the distance.
-/
import Dtaiverif.Proofs.Dist
import Dtaiverif.Proofs.CostInst

namespace Dtai
variable {α : Type} [LinearOrderedAddCommMonoidWithTop α]

/-- Engine-independent statement: *any* trace-back whose every step goes to a predecessor realising
the recurrence (whichever of several equally optimal predecessors is taken) is a contiguous monotone
path with steps (1,1),(1,0),(0,1), inside the band / below max_step, starting in the psi-relaxed
corner, and its accumulated cost (penalties included) equals the value of the cell it ends in. -/
theorem C05_greedy_path_valid (g : Grid α) (path : List Cell) (q : Cell) (hb : g.IsBack (q :: path)) :
    g.ValidRev (q :: path) ∧ g.costRev (q :: path) = D g (q.1+1) (q.2+1) :=
  isBack_valid g path q hb

/-- `dtw.best_path` (first minimum of `[diag, up + penalty, left + penalty]`, internal representation),
started in any cell with a finite value, returns such a path — for custom start cells as well. -/
theorem C05_best_path (g : Grid α) (h : g.NonNeg) (I J : Nat) (hfin : D g (I+1) (J+1) ≠ ⊤) :
    ∃ rest, backtrack (D g) g.pen (I + J + 2) (I+1) (J+1) = (I, J) :: rest ∧
      g.ValidRev ((I, J) :: rest) ∧ g.costRev ((I, J) :: rest) = D g (I+1) (J+1) :=
  backtrack_valid g h I J hfin

/-- started in an admissible end cell that attains the optimum, the path is a complete admissible
path whose cost is the DTW distance (`dtwSpec`) -/
theorem C05_path_achieves_distance (g : Grid α) (h : g.NonNeg) (I J : Nat) (he : g.EndOk (I, J))
    (hopt : D g (I+1) (J+1) = dtwSpec g) (hfin : dtwSpec g ≠ ⊤) :
    ∃ rest, backtrack (D g) g.pen (I + J + 2) (I+1) (J+1) = (I, J) :: rest ∧
      g.ValidRev ((I, J) :: rest) ∧ g.EndOk (I, J) ∧ g.costRev ((I, J) :: rest) = dtwSpec g :=
  backtrack_complete g h I J he hopt hfin

/-- the index arrays of length `len1 + len2` handed to the C engine always suffice -/
theorem C05_length_le (g : Grid α) (path : List Cell) (q : Cell) (hv : g.ValidRev (q :: path))
    (hq1 : q.1 < g.r) (hq2 : q.2 < g.c) : (q :: path).length + 1 ≤ g.r + g.c := by
  have := validRev_length g path q hv
  omega

/- non-vacuity on the executable domain -/
def exGrid5 : Grid Cost :=
  { r := 3, c := 3, window := 3, pen := 1, maxStep := .inf, psi1b := 0, psi1e := 0, psi2b := 0, psi2e := 0,
    cost := fun i j => .fin ((i + 2 * j) % 3 + 1) }
example : backtrack (fun I J => cellOf (matU exGrid5 3) I J) exGrid5.pen 8 3 3 = [(2,2), (1,1), (0,0)] := by
  decide +kernel

end Dtai
