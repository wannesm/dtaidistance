/-
Props/C08.lean — C08: the C engine stays within its buffers.

Proved for the index-faithful models (all lengths >= 1, all windows, all psi <= length):
  * rolling two-row buffer of `dtw_distance*`          : `C08_rolling_in_row`, `C08_rolling_last_row`
  * compact warping-paths buffer (`dtw_warping_paths*`, expansion, best path) : `C08_wps_in_row`
  * index arrays of `dtw_best_path*`                   : `C08_path_fits`
  * distance-matrix output slots                       : `C08_matrix_slots`
and tied to the source by obligations on the index expressions re-extracted from dd_dtw.c on every
run (`Generated/RollingPlan.lean`, translate/c_index.py): they must be exactly the transcribed ones.
Reads outside buffers, UB beyond index arithmetic and the remaining routines are exercised with
red zones and ASan/UBSan by the harness (validation / failing-input search, not proof).
-/
import Dtaiverif.Props.CBand
import Dtaiverif.Proofs.Rolling
import Dtaiverif.Proofs.Compact
import Dtaiverif.Proofs.Path
import Dtaiverif.Proofs.Matrix
import Dtaiverif.Generated.RollingPlan

namespace Dtai

/-- rolling buffer: all four offsets of a cell stay inside the row (`[0, length)`) -/
theorem C08_rolling_in_row (p : Roll) (h1 : 1 ≤ p.l1) (h2 : 1 ≤ p.l2) (hw : 1 ≤ p.window)
    (i j : Nat) (hi : i < p.l1) (hj1 : p.maxj i ≤ j) (hj2 : j < p.minj i) :
    p.skipp i ≤ j ∧ j - p.skipp i + 1 < p.length ∧ p.skip i ≤ j ∧ j - p.skip i + 1 < p.length :=
  rolling_in_row p hw i j hj1 hj2

/-- the final cell / psi scan of the last row is inside the row -/
theorem C08_rolling_last_row (p : Roll) (h1 : 1 ≤ p.l1) (h2 : 1 ≤ p.l2) (hw : 1 ≤ p.window) :
    p.skip (p.l1 - 1) ≤ p.l2 ∧ p.l2 - p.skip (p.l1 - 1) < p.length :=
  rolling_last_row_scan p h1 hw

/-- compact warping-paths buffer of the advertised size `(l1+1) * width` suffices and rows do not overlap -/
theorem C08_wps_in_row (l1 l2 window r : Nat) (h1 : 1 ≤ l1) (h2 : 1 ≤ l2) (hr1 : 1 ≤ r) (hr : r ≤ l1) :
    let p := wpsParts l1 l2 window
    let lc := locColumns p l2 r
    r * p.width ≤ lc.1 ∧ lc.2.1 ≤ min lc.2.2 (l2 + 1) ∧
      lc.1 + (min lc.2.2 (l2 + 1) - lc.2.1) ≤ r * p.width + p.width :=
  (wpsParts_isLayout l1 l2 window).in_row hr1 hr

/-- a warping path never has more than `len1 + len2 - 1` entries: index arrays of length
`len1 + len2` suffice -/
theorem C08_path_fits {α : Type} [LinearOrderedAddCommMonoidWithTop α] (g : Grid α) (path : List Cell)
    (q : Cell) (hv : g.ValidRev (q :: path)) (hq1 : q.1 < g.r) (hq2 : q.2 < g.c) :
    (q :: path).length + 1 ≤ g.r + g.c := by
  have := validRev_length g path q hv
  omega

/-- distance-matrix routines write exactly the slots `0 .. length-1` -/
theorem C08_matrix_slots (n : Nat) (b : Block) (rows : List Nat) :
    ((planFrom n b 0 rows).flatMap (rowWrites n b)).map Prod.fst =
      List.range' 0 (((planFrom n b 0 rows).flatMap (rowWrites n b)).length) :=
  (plan_writes n b rows 0).2

/-! ### obligations on the expressions extracted from dd_dtw.c -/

open Generated

def expectedAssigns : List String := ["window = settings->window", "ldiff = l1 - l2", "dl = ldiff", "ldiff = l2 - l1", "dl = 0", "window = MAX(l1, l2)", "length = MIN(l2+1, ldiff + 2*window + 1)", "skip = 0", "skipp = 0", "i0 = 1", "i1 = 0", "curidx = 0", "dl_window = dl + window - 1", "ldiff_window = window", "ldiff_window += ldiff", "maxj = (i - dl_window) * (i > dl_window)", "minj = i + ldiff_window", "minj = l2", "skipp = skip", "skip = maxj", "i0 = 1 - i0", "i1 = 1 - i1", "skip = skip * (length != l2 + 1)", "maxj = sc", "curidx = i0 * length + j - skipp", "curidx += 1", "curidx = i1 * length + j - skip", "curidx += 1", "curidx = i1 * length + l2 - skip"]
def expectedMallocs : List String := ["sizeof(seq_t) * length * 2"]
def expectedLoops : List String := ["j=0; j<length*2; j++", "i=0; i<settings->psi_2b + 1 && i<length; i++", "i=0; i<l1; i++", "j=0; j<length; j++", "j=maxj; j<minj; j++", "i=MAX(0, l2 - skip - settings->psi_2e); i<l2 - skip + 1; i++"]
def expectedLoopsNdim : List String := ["j=0; j<length*2; j++", "i=0; i<settings->psi_2b + 1 && i<length; i++", "i=0; i<l1; i++", "j=0; j<length; j++", "j=maxj; j<minj; j++", "int d_i=0; d_i<ndim; d_i++", "i=MAX(0, l2 - skip - settings->psi_2e); i<l2 - skip + 1; i++"]
def expectedSubscripts : List String := ["j", "i", "length * i1 + j", "i1*length + 0", "curidx", "curidx", "curidx", "curidx", "curidx", "curidx", "curidx", "length * i1 + l2 - skip", "i1*length + i", "i1*length + i"]

/-- all four kernels use the transcribed index arithmetic, allocation size and buffer subscripts -/
theorem C08_index_expressions :
    rollingFns.map (·.name) = ["dtw_distance", "dtw_distance_ndim", "dtw_distance_euclidean",
      "dtw_distance_ndim_euclidean"] ∧
    rollingFns.all (fun f => f.assigns == expectedAssigns && f.mallocs == expectedMallocs &&
      f.subscripts == expectedSubscripts && (f.loops == expectedLoops || f.loops == expectedLoopsNdim)) = true := by
  -- The four kernels share everything but the `ndim` loop. Stated with the expected lists in place, every `==` is
  -- between syntactically equal terms; evaluating `==` on the strings, character by character, is slow to check.
  have h : rollingFns =
      [⟨"dtw_distance", expectedAssigns, expectedMallocs, expectedLoops, expectedSubscripts⟩,
       ⟨"dtw_distance_ndim", expectedAssigns, expectedMallocs, expectedLoopsNdim, expectedSubscripts⟩,
       ⟨"dtw_distance_euclidean", expectedAssigns, expectedMallocs, expectedLoops, expectedSubscripts⟩,
       ⟨"dtw_distance_ndim_euclidean", expectedAssigns, expectedMallocs, expectedLoopsNdim, expectedSubscripts⟩] :=
    rfl
  rw [h]
  exact ⟨rfl, by simp only [List.all_cons, List.all_nil, beq_self_eq_true, Bool.or_true, Bool.true_or, Bool.and_true]⟩

/-- barycenter update: the buffer sized as the maximum over all series of the compact length suffices
for every series of the collection … -/
theorem C08_dba_wps_size (t window : Nat) (lens : List Nat) (l : Nat) (hl : l ∈ lens) :
    (wpsParts t l window).length ≤ (lens.map fun x => (wpsParts t x window).length).foldl max 0 :=
  -- `xs.foldl max 0` is `(0 :: xs).max`
  List.le_max_of_mem (l := 0 :: lens.map fun x => (wpsParts t x window).length)
    (List.mem_cons_of_mem _ (List.mem_map.mpr ⟨l, hl, rfl⟩))

/-- … while sizing it for the longest (or the longest and the shortest) series only does not: the
compact length is not monotone in the series length -/
theorem C08_dba_wps_not_monotone :
    (wpsParts 10 10 1).length < (wpsParts 10 6 1).length ∧ (wpsParts 10 2 1).length < (wpsParts 10 6 1).length := by
  decide

/-- the allocation logic extracted from `dtw_dba_ptrs` / `dtw_dba_matrix` is the transcribed one
(maximum over all series; index arrays of `max_length + t` entries) -/
theorem C08_dba_alloc : dbaAllocs =
    [{ name := "dtw_dba_ptrs",
       mallocs := ["t * ndim * sizeof(seq_t)", "t * sizeof(idx_t)", "(max_length + t) * sizeof(idx_t)",
                   "(max_length + t) * sizeof(idx_t)", "wps_length * sizeof(seq_t)"],
       sizes := ["max_length = 0", "max_length = lengths[r_idx]", "wps_length = 0",
                 "cur_wps_length = dtw_settings_wps_length(t, lengths[r_idx], settings)",
                 "wps_length = cur_wps_length"] },
     { name := "dtw_dba_matrix",
       mallocs := ["t * ndim * sizeof(seq_t)", "t * sizeof(idx_t)", "(nb_cols + t) * sizeof(idx_t)",
                   "(nb_cols + t) * sizeof(idx_t)", "wps_length * sizeof(seq_t)"],
       sizes := ["wps_length = dtw_settings_wps_length(t, nb_cols, settings)"] }] :=
  rfl

/- non-vacuity: a concrete narrow-window configuration -/
example : (⟨9, 9, 2⟩ : Roll).length = 5 ∧ (⟨9, 9, 2⟩ : Roll).skip 8 = 7 ∧ (⟨9, 9, 2⟩ : Roll).minj 8 = 9 := by decide

end Dtai
