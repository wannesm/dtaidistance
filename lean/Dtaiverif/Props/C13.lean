/-
Props/C13.lean — C13: subsequence alignment.
`SubsequenceAlignment.align` builds the accumulated-cost matrix of (query, series) with free start and
end columns (psi = (0, 0, len(series), len(series))); the matching function is its last row (transformed
and divided by len(query)).
-/
import Dtaiverif.Proofs.Subseq
import Dtaiverif.Proofs.SubseqIter
import Dtaiverif.Proofs.SubseqIterRun
import Dtaiverif.Proofs.Path

namespace Dtai
variable {α : Type} [LinearOrderedAddCommMonoidWithTop α]

/-- matching value at end position `e` = minimum over start positions `b ≤ e` of the (penalised) DTW
cost between the query and `series[b..e]` -/
theorem C13_matching_eq_min_over_starts (g : Grid α) (h : g.NonNeg) (hf : g.Full) (hpsi : g.psi1b = 0)
    (e : Nat) (hr : 1 ≤ g.r) (he : e < g.c) (hfree : e ≤ g.psi2b) :
    D g g.r (e+1) = minList ((List.range (e+1)).map fun b => D (subGrid g b e) g.r (e - b + 1)) := by
  obtain ⟨r', hr'⟩ : ∃ r', g.r = r' + 1 := ⟨g.r - 1, by omega⟩
  have := matching_eq_min_over_starts g h hf hpsi r' e (by omega) he hfree
  rw [hr']; exact this

/-- the path of a match (trace-back from the last query row at end position `e`, with the internal
penalty) is an admissible path whose cost is the matching value; its first cell gives the start of the
reported segment -/
theorem C13_match_realises (g : Grid α) (h : g.NonNeg) (I e : Nat) (hfin : D g (I+1) (e+1) ≠ ⊤) :
    ∃ rest, backtrack (D g) g.pen (I + e + 2) (I+1) (e+1) = (I, e) :: rest ∧
      g.ValidRev ((I, e) :: rest) ∧ g.costRev ((I, e) :: rest) = D g (I+1) (e+1) :=
  backtrack_valid g h I e hfin

/-- k-best iterator: in every reachable state the yielded matches have distinct end points, come in
non-decreasing value order, respect the length limits, and — when no overlap is allowed — any two of them
share at most a single boundary sample. Holds for every sequence of iterator steps. -/
theorem C13_iterator {β : Type} [Preorder β] (n overlap minlen : Nat) (maxlen : Option Nat)
    (startOf : Nat → Nat) (init : Nat → Slot β) (st : IterState β)
    (hreach : Reach n overlap minlen maxlen startOf init st) :
    (st.yielded.Pairwise fun m1 m2 => m1.e ≠ m2.e) ∧
    (st.yielded.Pairwise fun later earlier => earlier.v ≤ later.v) ∧
    (∀ m ∈ st.yielded, m.b ≤ m.e ∧ m.e < n ∧ minlen ≤ m.e - m.b + 1 ∧ ∀ ml, maxlen = some ml → m.e - m.b + 1 ≤ ml) ∧
    (overlap = 0 → st.yielded.Pairwise fun m1 m2 => ¬ SharesTwo m1 m2) := by
  have inv := reach_inv n overlap minlen maxlen startOf init st hreach
  exact ⟨inv.distinct, inv.sorted, inv.wf, inv.disjoint⟩

/-- **The executable iterator** (what the driver runs and what `kbest_matches` is compared with): for any
matching function `vals`, start-point table with `start ≤ end`, and options, its output consists of
well-formed segments within the length limits, with pairwise distinct end points and — without overlap —
sharing at most a single boundary sample pairwise. Obtained from `C13_iterator` through
`kbestRun_reach`: the executable run only performs reachable steps. -/
theorem C13_executable_iterator (vals : List Cost) (starts : List Nat) (lq overlap : Nat) (minlen maxlen k : Option Nat)
    (fuel : Nat) (hstarts : ∀ e, starts.getD e 0 ≤ e) :
    let out := kbestRun starts lq overlap minlen maxlen k fuel (kbestInit vals lq overlap) 0
    (out.Pairwise fun s1 s2 => s1.2 ≠ s2.2) ∧
    (∀ s ∈ out, s.1 ≤ s.2 ∧ s.2 < vals.length ∧ minlen.getD 0 ≤ s.2 - s.1 + 1 ∧
      ∀ ml, maxlen = some ml → s.2 - s.1 + 1 ≤ ml) ∧
    (overlap = 0 → out.Pairwise fun s1 s2 =>
      ¬ ∃ j, s1.1 ≤ j ∧ j + 1 ≤ s1.2 ∧ s2.1 ≤ j ∧ j + 1 ≤ s2.2) := by
  intro out
  obtain ⟨st, hreach, heq⟩ := kbestRun_reach starts lq overlap minlen maxlen k
    (absSlots (kbestInit vals lq overlap)) vals.length hstarts fuel (kbestInit vals lq overlap) 0
    { slots := absSlots (kbestInit vals lq overlap), yielded := [] } Reach.init (by simp [kbestInit]) rfl
  obtain ⟨h1, _, h3, h4⟩ := C13_iterator vals.length overlap (minlen.getD 0) maxlen _ _ st hreach
  -- the output is the list of yielded matches, oldest first; both pairwise properties are symmetric
  have hout : out = (st.yielded.map fun m => (m.b, m.e)).reverse := by
    rw [heq, List.map_nil, List.append_nil, List.reverse_reverse]
  refine ⟨?_, ?_, fun h0 => ?_⟩
  · rw [hout, List.pairwise_reverse, List.pairwise_map]
    exact h1.imp Ne.symm
  · intro s hs
    rw [hout, List.mem_reverse, List.mem_map] at hs
    obtain ⟨m, hm, rfl⟩ := hs
    exact h3 m hm
  · rw [hout, List.pairwise_reverse, List.pairwise_map]
    exact (h4 h0).imp fun h ⟨j, a1, a2, a3, a4⟩ => h ⟨j, a3, a4, a1, a2⟩

/- non-vacuity: the executable iterator on a concrete matching function -/
example : kbestRun [0, 0, 1, 2, 3, 5] 2 0 (some 2) none (some 2) 20
    (kbestInit [.fin 5, .fin 1, .fin 3, .fin 0, .fin 4, .fin 2] 2 0) 0 = [(2, 3), (0, 1)] := by decide

/-- **The other entry points of the iterator** (`best_matches` with a range factor, `best_matches_knee`
with a knee detector) run the same loop with an extra stopping rule that looks only at the candidate values
seen so far: whatever that rule is, they yield a prefix of the matches of the unlimited iterator with the same
overlap and length limits — so every invariant of C13 (distinct end points, order, length limits, overlap)
carries over. -/
theorem C13_stop_rule_prefix (stop : List (Nat × Cost) → Nat → Cost → Bool) (starts : List Nat) (lq overlap : Nat)
    (minlen maxlen k : Option Nat) (fuel : Nat) (slots : List (Slot Cost)) (ki : Nat) (hist : List (Nat × Cost)) :
    kbestRunStop stop starts lq overlap minlen maxlen k fuel slots ki hist <+:
      kbestRun starts lq overlap minlen maxlen k fuel slots ki :=
  (kbestRunStop_spec stop starts lq overlap minlen maxlen k fuel slots ki hist).1

theorem C13_stop_rule_never (starts : List Nat) (lq overlap : Nat) (minlen maxlen k : Option Nat) (fuel : Nat)
    (slots : List (Slot Cost)) (ki : Nat) (hist : List (Nat × Cost)) :
    kbestRunStop (fun _ _ _ => false) starts lq overlap minlen maxlen k fuel slots ki hist =
      kbestRun starts lq overlap minlen maxlen k fuel slots ki :=
  (kbestRunStop_spec _ starts lq overlap minlen maxlen k fuel slots ki hist).2 fun _ _ _ => rfl

/- non-vacuity: a range factor that really cuts the iteration short (values 1, 2, 9; factor² = 4) -/
example : kbestRunStop (rangeStop 4 1) [0, 1, 2, 3, 4, 5] 1 0 (some 1) none none 20
    [Slot.val (.fin 1), Slot.blocked, Slot.val (.fin 2), Slot.blocked, Slot.val (.fin 9), Slot.blocked] 0 [] = [(0, 0), (2, 2)] ∧
  kbestRun [0, 1, 2, 3, 4, 5] 1 0 (some 1) none none 20
    [Slot.val (.fin 1), Slot.blocked, Slot.val (.fin 2), Slot.blocked, Slot.val (.fin 9), Slot.blocked] 0 = [(0, 0), (2, 2), (4, 4)] := by
  decide +kernel

end Dtai
