/-
Props/C17.lean — C17: Needleman–Wunsch returns the optimal score and a consistent alignment.

Model: `Model/NW.lean` (score matrix of `dp.dp` with the Needleman–Wunsch border, direction flags,
`best_alignment`).  Scores live in any linearly ordered additive commutative monoid and are in the MIN
orientation of the code (`needleman_wunsch` negates value and matrix on return; a maximal similarity is
a minimal cost).  `sub` is any substitution function (default, dictionary based, either orientation —
they only differ in the numbers), `gap` any gap cost, `order` any preference order of the traceback that
lists the three directions.
-/
import Dtaiverif.Props.PyBand
import Dtaiverif.Proofs.NW

namespace Dtai
variable {σ α : Type} [AddCommMonoid α] [LinearOrder α] [IsOrderedAddMonoid α]

/-! the two gapped sequences that `best_alignment` returns for an alignment (`none` = gap) -/

def gapped1 : List (Col σ) → List (Option σ)
  | [] => []
  | .both x _ :: rest => some x :: gapped1 rest
  | .gap2 x :: rest => some x :: gapped1 rest
  | .gap1 _ :: rest => none :: gapped1 rest

def gapped2 : List (Col σ) → List (Option σ)
  | [] => []
  | .both _ y :: rest => some y :: gapped2 rest
  | .gap2 _ :: rest => none :: gapped2 rest
  | .gap1 y :: rest => some y :: gapped2 rest

/-- **Consistent alignment**: the two gapped sequences have equal length, reduce to the two sequences
when the gaps are removed, and no position holds a gap in both. -/
theorem C17_gapped (cols : List (Col σ)) :
    (gapped1 cols).length = (gapped2 cols).length ∧
    (gapped1 cols).filterMap id = colsFst cols ∧ (gapped2 cols).filterMap id = colsSnd cols ∧
    ∀ k : Nat, ¬ ((gapped1 cols)[k]? = some none ∧ (gapped2 cols)[k]? = some none) := by
  induction cols with
  | nil => simp [gapped1, gapped2, colsFst, colsSnd]
  | cons c rest ih =>
    obtain ⟨h1, h2, h3, h4⟩ := ih
    -- each kind of column adds one entry to both gapped sequences, a symbol in at least one of them
    cases c <;>
      exact ⟨congrArg (· + 1) h1, by simpa [gapped1, colsFst] using h2, by simpa [gapped2, colsSnd] using h3,
        fun k => by cases k with | zero => simp [gapped1, gapped2] | succ k => exact h4 k⟩

/-- the value `dp` leaves in the last cell -/
def nwValue (sub : σ → σ → α) (gap : α) (s1 s2 : List σ) : α := nwSpec sub gap s1.reverse s2.reverse

/-- the last cell of the executable matrix is that value, and so is every other cell for its prefixes -/
theorem C17_matrix (sub : σ → σ → α) (gap : α) (s1 s2 : List σ) (i j : Nat) (hi : i ≤ s1.length)
    (hj : j ≤ s2.length) :
    ((nwMatrix sub gap s1 s2)[i]?.bind fun row => row[j]?) = some (nwValue sub gap (s1.take i) (s2.take j)) :=
  nwMatrix_get sub gap s1 s2 i j hi hj

/-- **Optimal score**: every global alignment of `s1` and `s2` costs at least the returned value
(i.e. scores at most the returned similarity) … -/
theorem C17_optimal (sub : σ → σ → α) (gap : α) (s1 s2 : List σ) (cols : List (Col σ))
    (h1 : colsFst cols = s1) (h2 : colsSnd cols = s2) : nwValue sub gap s1 s2 ≤ colsScore sub gap cols := by
  have := nwSpec_le_score sub gap cols.reverse
  rw [colsFst_reverse, colsSnd_reverse, h1, h2, colsScore_reverse] at this
  exact this

variable [DecidableEq α]

/-- … **and the alignment reconstructed from the matrix attains it**: for the executable matrix and any
preference order covering the three directions, `best_alignment` succeeds; its columns (reversed into
reading order, as the Python code does) are an alignment of `s1` and `s2` whose score is exactly the
returned value. With `C17_gapped` this is the full consistency clause. -/
theorem C17_traceback (sub : σ → σ → α) (gap : α) (s1 s2 : List σ) (order : List Dir) (hord : ∀ d : Dir, d ∈ order) :
    let val : Nat → Nat → α := fun i j => (((nwMatrix sub gap s1 s2)[i]?.bind fun row => row[j]?).getD 0)
    ∃ cols, nwTraceback sub gap val order s1.reverse s2.reverse = some cols ∧
      colsFst cols.reverse = s1 ∧ colsSnd cols.reverse = s2 ∧
      colsScore sub gap cols.reverse = nwValue sub gap s1 s2 := by
  intro val
  obtain ⟨cols, h1, h2, h3, h4⟩ := nwTraceback_spec sub gap val order hord s1.reverse s2.reverse
    (fun xs zs hx hz => by simp only [val, nwMatrix_get_of_suffix sub gap s1 s2 hx hz, Option.getD_some])
    _ _ List.suffix_rfl List.suffix_rfl
  exact ⟨cols, h1, by rw [colsFst_reverse, h2, List.reverse_reverse],
    by rw [colsSnd_reverse, h3, List.reverse_reverse], by rw [colsScore_reverse, h4]; rfl⟩

/-- The value returned for `(s2, s1)` under the transposed scoring is the value for `(s1, s2)`,
and for a symmetric scoring (the default one, a symmetric dictionary) the value is symmetric. -/
theorem C17_transpose (sub : σ → σ → α) (gap : α) (s1 s2 : List σ) :
    nwValue (fun a b => sub b a) gap s2 s1 = nwValue sub gap s1 s2 :=
  nwSpec_transpose sub gap s1.reverse s2.reverse

theorem C17_symmetric (sub : σ → σ → α) (gap : α) (hsym : ∀ a b, sub a b = sub b a) (s1 s2 : List σ) :
    nwValue sub gap s2 s1 = nwValue sub gap s1 s2 := by
  have h : (fun a b => sub b a) = sub := funext₂ fun a b => hsym b a
  rw [← C17_transpose sub gap s1 s2, h]

theorem borderVal_add (gap : α) (m n : Nat) : borderVal gap (m + n) = borderVal gap m + borderVal gap n := by
  induction m with
  | zero => rw [Nat.zero_add, borderVal, zero_add]
  | succ m ih => rw [Nat.succ_add, borderVal, borderVal, ih, add_assoc]

/-- **Bound**: the returned score is at least the score of the alignment made of gaps only,
`-(len s1 + len s2) * gap` in the orientation of the caller. -/
theorem C17_all_gaps_bound (sub : σ → σ → α) (gap : α) (s1 s2 : List σ) :
    nwValue sub gap s1 s2 ≤ borderVal gap (s1.length + s2.length) := by
  simpa [nwValue] using nwSpec_le_all_gaps sub gap s1.reverse s2.reverse

/-- non-vacuity on the docstring example: GATTACA / GCATGCU with the default scoring has cost 0 -/
example :
    let sub : Char → Char → Int := fun a b => if a = b then -1 else 1
    ((nwMatrix sub 1 "GATTACA".toList "GCATGCU".toList)[7]?.bind fun row => row[7]?) = some 0 := by
  decide +kernel

end Dtai
