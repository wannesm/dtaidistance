/-
Props/C04.lean — C04: the accumulated-cost matrix is cell-wise optimal and identical across engines.
Python `warping_paths` = `wpsModel` (matrix `matP`); the C engine stores the same cells in the compact
layout `wpsParts`/`locColumns`/`wpsLoc` and expands them with `expandSlice`.
-/
import Dtaiverif.Props.CBand
import Dtaiverif.Proofs.Wps
import Dtaiverif.Proofs.Compact
import Dtaiverif.Proofs.CostInst
import Dtaiverif.Generated.LayoutPlan
import Dtaiverif.Props.PyBand

namespace Dtai
variable {α : Type} [LinearOrderedAddCommMonoidWithTop α]

/-- shape `(len1+1) × (len2+1)` -/
theorem C04_shape (g : Grid α) (h : g.NonNeg) (m : α) :
    (wpsModel g m).mat.length = g.r + 1 ∧
    ∀ I, I ≤ g.r → ((wpsModel g m).mat.getD I []).length = g.c + 1 := by
  rw [wpsModel_mat]
  exact ⟨matP_length g m g.r, fun I hI => matP_row_length g h m g.r I hI⟩

/-- without a threshold every cell equals the recurrence `D`, which by C01_cell_lower_bound /
C01_cell_attained is the minimum cost of an admissible partial path ending in that cell -/
theorem C04_cells_exact (g : Grid α) (h : g.NonNeg) (I J : Nat) (hI : I ≤ g.r) (hJ : J ≤ g.c) :
    cellOf (matP g ⊤ g.r) I J = D g I J :=
  (matP_rel g h ⊤ g.r I J hI hJ).eq le_top

/-- with a threshold `m`: a cell is exact whenever its optimum is `≤ m`; otherwise it holds a value
that is at least the optimum, hence above `m` (possibly `⊤`) — exactly the permitted freedom -/
theorem C04_cells (g : Grid α) (h : g.NonNeg) (m : α) (I J : Nat) (hI : I ≤ g.r) (hJ : J ≤ g.c) :
    (D g I J ≤ m → cellOf (matP g m g.r) I J = D g I J) ∧
    (¬ D g I J ≤ m → ¬ cellOf (matP g m g.r) I J ≤ m) := by
  have hrel := matP_rel g h m g.r I J hI hJ
  exact ⟨hrel.eq, fun hn hle => hn (le_trans hrel.le hle)⟩

/-- the optimum of a cell outside the window band (or above `max_step`) is infinite, and so is the
reported cell -/
theorem C04_outside_band (g : Grid α) (h : g.NonNeg) (m : α) (i j : Nat) (hi : i < g.r) (hj : j < g.c)
    (hout : g.ok i j = false) :
    D g (i+1) (j+1) = ⊤ ∧ cellOf (matP g m g.r) (i+1) (j+1) = ⊤ := by
  have hD := D_succ_not_ok g i j (by simp [hout])
  exact ⟨hD, cellOf_matP_top g h m (by omega) (by omega) hD⟩

/-- the distance returned together with the matrix is the one the distance-only routine returns -/
theorem C04_dist_agrees (g : Grid α) (h : g.NonNeg) (hn : g.NonDegenerate) (m : α)
    (hp1 : g.psi1e ≤ g.r) (hp2 : g.psi2e ≤ g.c) :
    finalCheck m (wpsModel g m).d = distModel g m none true := by
  rw [wpsModel_d g h hn m hp1 hp2]; rfl

/-! ### compact layout of the C engine (all lengths, all windows) -/

/-- every stored cell of compact row `r` lies inside row `r` of a buffer with `width` columns: the
buffer of `dtw_settings_wps_length` doubles is sufficient and rows never overlap -/
theorem C04_compact_in_row (l1 l2 window r : Nat) (h1 : 1 ≤ l1) (h2 : 1 ≤ l2) (hr1 : 1 ≤ r) (hr : r ≤ l1) :
    let p := wpsParts l1 l2 window
    let lc := locColumns p l2 r
    r * p.width ≤ lc.1 ∧ lc.2.1 ≤ min lc.2.2 (l2 + 1) ∧
      lc.1 + (min lc.2.2 (l2 + 1) - lc.2.1) ≤ r * p.width + p.width :=
  (wpsParts_isLayout l1 l2 window).in_row hr1 hr

/-- distinct cells are stored at distinct indices -/
theorem C04_compact_inj (l1 l2 window r c r' c' i : Nat) (h1 : 1 ≤ l1) (h2 : 1 ≤ l2)
    (hr : r ≤ l1) (hr' : r' ≤ l1)
    (h : wpsLoc (wpsParts l1 l2 window) l2 r c = some i)
    (h' : wpsLoc (wpsParts l1 l2 window) l2 r' c' = some i) : r = r' ∧ c = c' :=
  wpsLoc_inj l1 l2 window r c r' c' i h1 h2 hr hr' h h'

/-- the cells stored for row `r` are exactly "left neighbour + band cells" of the Python band -/
theorem C04_compact_eq_band (g : Grid α) (window r : Nat) (h1 : 1 ≤ g.r) (h2 : 1 ≤ g.c)
    (hw : g.window = effWindow g.r g.c window) (hr1 : 1 ≤ r) (hr : r ≤ g.r) :
    (locColumns (wpsParts g.r g.c window) g.c r).2.1 = g.jStart (r - 1) ∧
    min (locColumns (wpsParts g.r g.c window) g.c r).2.2 (g.c + 1) = g.jEnd (r - 1) + 1 :=
  locColumns_eq_band g window r h1 h2 hw hr1 hr

/-- expansion/slicing reads every stored cell from its compact index and reproduces the border zeros;
everything else is infinite -/
theorem C04_expand_cell (p : Parts) (l1 l2 psi1b psi2b : Nat) (wps : Array α) (rb re cb ce dr dc : Nat)
    (hdr : dr < re - rb) (hdc : dc < ce - cb) :
    ((expandSlice p l1 l2 psi1b psi2b wps rb re cb ce).getD dr []).getD dc ⊤ =
      (match wpsLoc p l2 (rb + dr) (cb + dc) with
       | some i => wps.getD i ⊤
       | none => if rb + dr = 0 ∧ cb + dc ≤ psi2b ∧ cb + dc ≤ l2 then 0
                 else if cb + dc = 0 ∧ 1 ≤ rb + dr ∧ rb + dr ≤ psi1b ∧ rb + dr ≤ l1 then 0 else ⊤) := by
  rw [expandSlice, getD_map_range _ hdr, getD_map_range _ hdc]
  rfl

/- non-vacuity -/
example : (wpsParts 4 4 2).ri2 = 2 ∧ (wpsParts 4 4 2).ri3 = 3 ∧ (wpsParts 4 4 2).width = 5 := by decide
example : wpsLoc (wpsParts 4 4 2) 4 4 3 = some 22 := by decide

/-! ### the layout functions of the C source are the transcribed ones

`Generated/LayoutPlan.lean` is re-extracted from `dd_dtw.c` on every run (translate/c_layout.py): the statements
of `dtw_wps_parts` (band geometry) and `dtw_wps_loc_columns` (stored column range and offset of every row), in
source order. `wpsParts` and `locColumns` of `Model/Compact.lean` are the closed forms of exactly these statements
(validated against the compiled functions by the correspondence run); any edit of the two C functions changes the
extracted lists and breaks this obligation. -/

def expectedLayoutFns : List Generated.LayoutFn := [
  { name := "dtw_wps_parts", params := "idx_t l1, idx_t l2, DTWSettings * settings",
    stmts := ["parts.window = settings->window",
      "if l1 > l2",
      "parts.ldiff = l1 - l2",
      "parts.ldiffr = parts.ldiff",
      "parts.ldiffc = 0",
      "else",
      "parts.ldiff = l2 - l1",
      "parts.ldiffr = 0",
      "parts.ldiffc = parts.ldiff",
      "if parts.window == 0",
      "parts.window = MAX(l1, l2)",
      "parts.width = l2 + 1",
      "else",
      "parts.window = MIN(parts.window, MAX(l1, l2))",
      "parts.width = MIN(l2 + 1, parts.ldiff + 2*parts.window + 1)",
      "parts.overlap_left_ri = MIN(parts.window + parts.ldiffr, l1 + 1)",
      "parts.overlap_right_ri = 0",
      "if (parts.window + parts.ldiffr) <= l1",
      "parts.overlap_right_ri = MAX(l1 + 1 - parts.window - parts.ldiffr, 0)",
      "parts.length = (l1 + 1) * parts.width",
      "parts.ri1 = MIN(l1, MIN(parts.overlap_left_ri, parts.overlap_right_ri))",
      "parts.ri2 = MIN(l1, parts.overlap_left_ri)",
      "parts.ri3 = MIN(l1, MAX(parts.overlap_left_ri, parts.overlap_right_ri))",
      "return parts"] },
  { name := "dtw_wps_loc_columns", params := "DTWWps* p, idx_t r, idx_t *cb, idx_t *ce, idx_t l1, idx_t l2",
    stmts := ["ri_width = p->width",
      "ri_width = p->width",
      "min_ci = 0",
      "max_ci = p->window + p->ldiffc + 1",
      "for ri=1; ri<p->ri1+1; ri++",
      "if ri == r",
      "*cb = min_ci",
      "*ce = max_ci",
      "return ri_width",
      "max_ci++",
      "ri_width += p->width",
      "min_ci = 0",
      "max_ci = l2 + 1",
      "for ri=p->ri1+1; ri<p->ri2+1; ri++",
      "if ri == r",
      "*cb = min_ci",
      "*ce = max_ci",
      "return ri_width",
      "ri_width += p->width",
      "min_ci = 1",
      "max_ci = 1 + 2 * p->window - 1 + p->ldiff + 1",
      "for ri=p->ri2+1; ri<p->ri3+1; ri++",
      "if ri == r",
      "*cb = min_ci",
      "*ce = max_ci",
      "return ri_width",
      "min_ci++",
      "max_ci++",
      "ri_width += p->width",
      "min_ci = MAX(0, p->ri3 + 1 - p->window - p->ldiffr)",
      "max_ci = l2 + 1",
      "wpsi_start = 2",
      "if p->ri2 == p->ri3",
      "wpsi_start = min_ci + 1",
      "else",
      "min_ci = 1 + p->ri3 - p->ri2",
      "for ri=p->ri3+1; ri<l1+1; ri++",
      "wpsi = wpsi_start - 1",
      "if ri == r",
      "*cb = min_ci",
      "*ce = max_ci",
      "return ri_width + wpsi",
      "wpsi_start++",
      "min_ci++",
      "ri_width += p->width",
      "return 0"] }
]

theorem C04_layout_source : Generated.layoutFns = expectedLayoutFns := rfl

end Dtai
