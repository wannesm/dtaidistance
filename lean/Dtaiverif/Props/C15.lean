/-
Props/C15.lean — C15: hierarchical clustering is a partition built from monotone, bounded merges.

Model: `Model/Hier.lean`.  `HReach` contains every state `Hierarchical.fit` can be in after any number of
loop iterations, for ANY choice among tied minimal entries (the `order_hook`) and ANY decision of the
`merge_hook` to swap the two prototypes; the deterministic `hierRun` (first minimal entry in row-major
order, no swap: the hook-free behaviour) is proved to stay inside it and is what the driver executes.
The distance matrix is an arbitrary function into a linearly ordered type with top (ties, duplicates
and infinite entries included); `maxDist` is arbitrary.
-/
import Dtaiverif.Proofs.Hier
import Dtaiverif.Proofs.Matrix
import Dtaiverif.Proofs.CostInst

namespace Dtai
variable {α : Type} [LinearOrderedAddCommMonoidWithTop α]

/-- **Partition keyed by prototypes.** `rep` maps every series to the prototype of its cluster; the
clusters are the fibres of `rep` over the live (non-deleted) prototypes. Being a function, `rep` puts
every series in exactly one cluster; the key is live, below `n`, and a member of its own cluster; the
live prototypes are exactly the fixed points. -/
theorem C15_partition (n : Nat) (maxDist : α) (d0 : Nat → Nat → α) (st : HState α)
    (h : HReach n maxDist d0 st) :
    (∀ x, x < n → st.rep x < n ∧ st.rep x ∉ st.deleted ∧ st.rep (st.rep x) = st.rep x) ∧
    (∀ p, p ∉ st.deleted ↔ st.rep p = p) := by
  have hi := reach_hinv h
  refine ⟨fun x hx => ⟨hi.repLt x hx, fun hdel => (hi.delIff _).mp hdel (hi.repIdem x), hi.repIdem x⟩, fun p => ?_⟩
  rw [hi.delIff, not_not]

/-- **Monotone, bounded merges.** The recorded merge distances (most recent first) are non-decreasing in
time, each is at most `maxDist`, the number of merges equals the number of deleted prototypes and is
at most `n - 1`. -/
theorem C15_monotone_bounded (n : Nat) (hn : 1 ≤ n) (maxDist : α) (d0 : Nat → Nat → α) (st : HState α)
    (h : HReach n maxDist d0 st) :
    st.merges.Pairwise (fun later earlier => earlier.2.2 ≤ later.2.2) ∧
    (∀ m ∈ st.merges, m.2.2 ≤ maxDist) ∧ st.merges.length + 1 ≤ n := by
  have hi := reach_hinv h
  exact ⟨hi.sorted, hi.bounded, hi.count ▸ hi.deleted_length_lt hn⟩

/-- every merge joins two live prototypes at their ORIGINAL distance: the working matrix never changes
an entry between live prototypes (blanking only touches the merged one) -/
theorem C15_live_entries_original (n : Nat) (maxDist : α) (d0 : Nat → Nat → α) (st : HState α)
    (h : HReach n maxDist d0 st) (r c : Nat) (hrc : r < c) (hcn : c < n)
    (hr : r ∉ st.deleted) (hc : c ∉ st.deleted) : st.dist r c = d0 r c := by
  rw [(reach_hinv h).kept r c hr hc]; simp [hierInit, hrc, hcn]

/-- what `Hierarchical.fit` has reached when its loop ends: a single prototype, or no two remaining
prototypes within `maxDist` (infinite distances never merge) -/
def HFinal (n : Nat) (maxDist : α) (d0 : Nat → Nat → α) (st : HState α) : Prop :=
  st.deleted.length + 1 = n ∨
  ∀ r c, r < c → c < n → r ∉ st.deleted → c ∉ st.deleted → ¬ (d0 r c ≤ maxDist ∧ d0 r c ≠ ⊤)

/-- **Stop condition, relational form**: if the loop guard fails on a reachable state for a minimal
entry `m` (it exceeds `maxDist` or is infinite) then no two remaining prototypes are within `maxDist`. -/
theorem C15_stop (n : Nat) (maxDist : α) (d0 : Nat → Nat → α) (st : HState α)
    (h : HReach n maxDist d0 st) (m : α) (hm : ∀ r c, m ≤ st.dist r c) (hguard : ¬ (m ≤ maxDist ∧ m ≠ ⊤)) :
    HFinal n maxDist d0 st := by
  refine Or.inr fun r c hrc hcn hr hc hd => ?_
  rw [← C15_live_entries_original n maxDist d0 st h r c hrc hcn hr hc] at hd
  exact hguard ⟨(hm r c).trans hd.1, fun htop => hd.2 (top_le_iff.mp (htop ▸ hm r c))⟩

/-- The hook-free run (first minimal entry in row-major order, no swap) only visits reachable states,
and with enough fuel it ends in a final one. The cases are the five ways out of one round of the loop. -/
theorem hierRun_spec (n : Nat) (maxDist : α) (d0 : Nat → Nat → α) (fuel : Nat) (st : HState α)
    (h : HReach n maxDist d0 st) :
    HReach n maxDist d0 (hierRun maxDist fuel st) ∧
    (n ≤ st.deleted.length + fuel + 1 → HFinal n maxDist d0 (hierRun maxDist fuel st)) := by
  fun_induction hierRun maxDist fuel st with
  | case1 st =>
    -- out of fuel: then `n - 1` prototypes are deleted already (or `n = 0`)
    refine ⟨h, fun hf => ?_⟩
    rcases Nat.eq_zero_or_pos n with rfl | hn
    · exact Or.inr fun r c _ hc => absurd hc (Nat.not_lt_zero c)
    · have := (reach_hinv h).deleted_length_lt hn
      exact Or.inl (by omega)
  | case2 fuel st hfm =>
    -- no pair to look at
    rw [(reach_hinv h).size] at hfm
    exact ⟨h, fun _ => Or.inr fun r c hrc hcn _ _ _ => firstMinPair_none n st.dist hfm r c hrc hcn⟩
  | case3 fuel st r c hfm d hg st' hlen =>
    -- the merge that leaves a single prototype
    obtain ⟨hrc, hcn, hmin⟩ := (reach_hinv h).firstMinPair_min hfm
    exact ⟨HReach.step st r c false h hrc hcn hg.1 hg.2 hmin, fun _ => Or.inl ((reach_hinv h).size ▸ hlen)⟩
  | case4 fuel st r c hfm d hg st' hlen ih =>
    -- a merge, and on with one unit of fuel less and one prototype more deleted
    obtain ⟨hrc, hcn, hmin⟩ := (reach_hinv h).firstMinPair_min hfm
    obtain ⟨h1, h2⟩ := ih (HReach.step st r c false h hrc hcn hg.1 hg.2 hmin)
    exact ⟨h1, fun hf => h2 (by simp only [st', HState.merge_deleted, List.length_cons]; omega)⟩
  | case5 fuel st r c hfm d hg =>
    -- the loop guard fails for the minimal entry
    obtain ⟨hrc, hcn, hmin⟩ := (reach_hinv h).firstMinPair_min hfm
    exact ⟨h, fun _ => C15_stop n maxDist d0 st h _ hmin hg⟩

/-- **Stop condition, executable form**: the hook-free run with enough fuel ends in a final state. -/
theorem C15_run_final (n : Nat) (hn : 1 ≤ n) (maxDist : α) (d0 : Nat → Nat → α) :
    ∀ (fuel : Nat) (st : HState α), HReach n maxDist d0 st → n ≤ st.deleted.length + fuel + 1 →
      HFinal n maxDist d0 (hierRun maxDist fuel st) :=
  fun fuel st h => (hierRun_spec n maxDist d0 fuel st h).2

/-- the hook-free run from the initial state, as executed by the driver -/
theorem C15_run (n : Nat) (hn : 1 ≤ n) (maxDist : α) (d0 : Nat → Nat → α) :
    let fin := hierRun maxDist (n - 1) (hierInit n d0)
    HReach n maxDist d0 fin ∧ HFinal n maxDist d0 fin :=
  (hierRun_spec n maxDist d0 _ _ HReach.init).imp_right fun h => h (by show n ≤ 0 + (n - 1) + 1; omega)

/-- **Progress with finite distances** (the tree variant resets `max_dist` to infinity): while two
prototypes are left the loop guard holds for every minimal entry, so the loop only ends with a single
prototype, i.e. after exactly `n - 1` merges. -/
theorem C15_progress (n : Nat) (d0 : Nat → Nat → α) (hfin : ∀ r c, r < c → c < n → d0 r c ≠ ⊤)
    (st : HState α) (h : HReach n ⊤ d0 st) (hfinal : HFinal n ⊤ d0 st) (hn : 1 ≤ n) :
    st.merges.length + 1 = n := by
  have hi := reach_hinv h
  rw [← hi.count]
  rcases hfinal with hf | hf
  · exact hf
  · -- otherwise two live prototypes would be left, at a finite distance
    by_contra hne
    have := hi.deleted_length_lt hn
    obtain ⟨r, c, hrc, hcn, hr, hc⟩ := hi.exists_live_pair (by omega)
    exact hf r c hrc hcn hr hc ⟨le_top, hfin r c hrc hcn⟩

/-- **The recorded tree.** For the linkage recorded along any reachable merge sequence: every row refers
to leaves or earlier rows only; no node id is used as a child twice; and once `n - 1` merges are
recorded, every node `0 … 2n-3` is a child (exactly once), while the last created node `2n-2` — the
root — is not a child: a single rooted binary tree over the `n` series. -/
theorem C15_tree (n : Nat) (maxDist : α) (d0 : Nat → Nat → α) (st : HState α)
    (h : HReach n maxDist d0 st) :
    let t := treeOf n st.merges
    t.linkage.length = st.merges.length ∧ WellOrdered n t.linkage ∧ (children t.linkage).Nodup ∧
    (st.merges.length + 1 = n →
      (∀ id, id < 2 * n - 2 → id ∈ children t.linkage) ∧ (∀ id ∈ children t.linkage, id < 2 * n - 2)) := by
  intro t
  have ht := reach_tinv h
  refine ⟨ht.len, ht.ordered, ht.nodup, ?_⟩
  intro hfull
  have hlen : (children t.linkage).length = 2 * n - 2 := by
    rw [children_length, ht.len]; omega
  have hlt : ∀ id ∈ children t.linkage, id < 2 * n - 2 := by
    intro id hid
    have h1 := ht.childLt id hid
    have h2 := ht.len
    omega
  exact ⟨nodup_full ht.nodup hlen hlt, hlt⟩

/-- **Condensed vector for SciPy**: `LinkageTree.fit` hands over the upper triangle in row-major order,
which is the layout `scipy.cluster.hierarchy.linkage` expects: entry `(a, b)`, `a < b < n`, sits at the
condensed index `n·a − a(a+1)/2 + (b − a − 1)`. -/
theorem C15_condensed (n : Nat) (d : Nat → Nat → α) (a b : Nat) (hab : a < b) (hb : b < n) :
    (condensedOf n d)[condensedIndex a b n]? = some (d a b) := by
  have hup : upperPairs n = pairs n none := by rw [pairs_none, upperPairs, List.range_eq_range']
  simp only [condensedOf, hup, List.getElem?_map, (condensedIndex_spec n a b hab hb).1, Option.map_some]

/-- non-vacuity: a concrete matrix with a tie and an infinite entry, run by the executable model -/
example :
    let d0 : Nat → Nat → Cost := fun r c =>
      if (r, c) = (0, 1) then .fin 2 else if (r, c) = (2, 3) then .fin 2 else if (r, c) = (0, 2) then .inf else .fin 5
    ((hierRun (.fin 4) 3 (hierInit 4 d0)).merges.map fun m => (m.1, m.2.1)) = [(2, 3), (0, 1)] := by
  decide +kernel

end Dtai
