/-
Props/C14.lean — C14: k-NN subsequence search is exact despite lower bounds and early abandoning.

Model: `knnScan` (Model/SubseqSearch.lean).  Each candidate is a triple (index, true DTW distance,
LB_Keogh value); the only facts used about them are `lb ≤ dist` (C09) and that the thresholded
distance call returns `dist` when `dist ≤ bound` and infinity otherwise (C03).
-/
import Dtaiverif.Proofs.SubseqSearch
import Dtaiverif.Proofs.CostInst
import Dtaiverif.Proofs.Bounds
import Dtaiverif.Proofs.Dist

namespace Dtai
variable {α : Type} [LinearOrderedAddCommMonoidWithTop α]

/-- **Exactness** for every candidate list (ties and duplicates included), every `k ≥ 1`, with or without
the lower-bound skip, any user bound `M`. -/
theorem C14_exact (k : Nat) (hk : 1 ≤ k) (useLb : Bool) (M : α) (cands : List (Nat × α × α))
    (hlb : ∀ c ∈ cands, c.2.2 ≤ c.2.1) : KSpec k M cands (knnScan k useLb M cands).best :=
  (knnScan_inv k hk useLb M cands hlb).spec

/-- the lower bound never changes the reported distances: with and without `use_lb` the result satisfies
the same specification -/
theorem C14_lb_irrelevant (k : Nat) (hk : 1 ≤ k) (M : α) (cands : List (Nat × α × α))
    (hlb : ∀ c ∈ cands, c.2.2 ≤ c.2.1) :
    KSpec k M cands (knnScan k true M cands).best ∧ KSpec k M cands (knnScan k false M cands).best :=
  ⟨C14_exact k hk true M cands hlb, C14_exact k hk false M cands hlb⟩

/-- a prefix of the stored k₀-best answer is a k-best answer (re-use of the stored result) -/
theorem C14_prefix (k k0 : Nat) (hk : k ≤ k0) (M : α) (cands : List (Nat × α × α)) (R : List (α × Nat))
    (h : KSpec k0 M cands R) : KSpec k M cands (R.take k) :=
  h.take hk

/-- **History independence.** Whatever was stored by earlier queries (provided it satisfies the
specification, which `C14_state_preserved` shows to be invariant), the answer to `kbest_matches(k)`
satisfies the specification of a fresh object's answer for the same `k`. -/
theorem C14_history (useLb : Bool) (M : α) (cands : List (Nat × α × α))
    (hlb : ∀ c ∈ cands, c.2.2 ≤ c.2.1) (o : SSObj α) (k : Nat) (hk : 1 ≤ k)
    (hstored : ∀ k0 R, o.stored = some (k0, R) → KSpec k0 M cands R) :
    KSpec k M cands (ssQuery useLb M cands o k).2 := by
  rcases ssQuery_cases useLb M cands o k with ⟨k0, R, ho, hle, h⟩ | h <;> rw [h]
  · exact C14_prefix k k0 hle M cands R (hstored k0 R ho)
  · exact C14_exact k hk useLb M cands hlb

/-- the stored state after any query again satisfies the specification: by induction the statement
above applies along every sequence of `kbest_matches` / `best_match` / `align` calls -/
theorem C14_state_preserved (useLb : Bool) (M : α) (cands : List (Nat × α × α))
    (hlb : ∀ c ∈ cands, c.2.2 ≤ c.2.1) (o : SSObj α) (k : Nat) (hk : 1 ≤ k)
    (hstored : ∀ k0 R, o.stored = some (k0, R) → KSpec k0 M cands R) :
    ∀ k0 R, (ssQuery useLb M cands o k).1.stored = some (k0, R) → KSpec k0 M cands R := by
  intro k0 R
  rcases ssQuery_cases useLb M cands o k with ⟨_, _, _, _, h⟩ | h <;> rw [h]
  · exact hstored k0 R
  · intro hs
    obtain ⟨rfl, rfl⟩ := Prod.mk.inj (Option.some.inj hs)
    exact C14_exact k hk useLb M cands hlb

/-- … hence for every finite sequence of queries, starting from a fresh object -/
theorem C14_all_histories (useLb : Bool) (M : α) (cands : List (Nat × α × α))
    (hlb : ∀ c ∈ cands, c.2.2 ≤ c.2.1) :
    ∀ (ks : List Nat) (o : SSObj α), (∀ k ∈ ks, 1 ≤ k) →
      (∀ k0 R, o.stored = some (k0, R) → KSpec k0 M cands R) →
      ∀ (pre : List Nat) (k : Nat) (post : List Nat), ks = pre ++ k :: post →
        KSpec k M cands (ssQuery useLb M cands (pre.foldl (fun o k' => (ssQuery useLb M cands o k').1) o) k).2 := by
  intro ks o hks hstored pre k post hsplit
  subst hsplit
  induction pre generalizing o with
  | nil => exact C14_history useLb M cands hlb o k (hks k (by simp)) hstored
  | cons p ps ih =>
    exact ih _ (C14_state_preserved useLb M cands hlb o p (hks p (by simp)) hstored)
      fun k' hk' => hks k' (List.mem_cons_of_mem _ hk')

/- non-vacuity: ties, a bound, and a candidate skipped by its lower bound -/
example : (knnScan 2 true (Cost.fin 10) [(0, .fin 4, .fin 1), (1, .fin 2, .fin 2), (2, .fin 12, .fin 11),
    (3, .fin 2, .fin 0), (4, .fin 3, .fin 3)]).best = [(.fin 2, 3), (.fin 2, 1)] := by decide

/-! ### end to end with C09: the hypothesis `lb ≤ dist` discharged for DTW grids -/

/-- the candidate list built from the DTW grids (query vs candidate `i`) and their row-wise lower bounds:
distance = the optimum over admissible paths (`dtwSpec`, C01), lower bound = the sum of the row bounds
(`lbUpTo`, the shape of LB_Keogh, C09) -/
def candsOfGrids (gs : List (Grid α × (Nat → α))) : List (Nat × α × α) :=
  gs.zipIdx.map fun p => (p.2, dtwSpec p.1.1, lbUpTo p.1.2 (p.1.1.r - 1))

/-- **Exact k-NN search over DTW distances with Keogh-type lower bounds**: for candidate grids with
non-negative costs and penalty, non-degenerate psi, no relaxation on the query side, and row bounds
that are below every admissible point cost of their row, the scan returns the k smallest qualifying DTW
optima — the lower-bound hypothesis of `C14_exact` is a theorem here (`lb_le_dtw`). -/
theorem C14_end_to_end (k : Nat) (hk : 1 ≤ k) (useLb : Bool) (M : α) (gs : List (Grid α × (Nat → α)))
    (hg : ∀ p ∈ gs, p.1.NonNeg ∧ p.1.NonDegenerate ∧ p.1.psi1b = 0 ∧ p.1.psi1e = 0 ∧
      ∀ i j, p.1.ok i j = true → p.2 i ≤ p.1.cost i j) :
    KSpec k M (candsOfGrids gs) (knnScan k useLb M (candsOfGrids gs)).best := by
  apply C14_exact k hk useLb M
  intro c hc
  simp only [candsOfGrids, List.mem_map] at hc
  obtain ⟨p, hp, rfl⟩ := hc
  obtain ⟨h1, h2, h3, h4, h5⟩ := hg p.1 (List.fst_mem_of_mem_zipIdx hp)
  exact lb_le_dtw p.1.1 h1 h2 p.1.2 h5 h3 h4

/-! ### end to end with C03: the thresholded distance call -/

/-- what `distance(query, series, max_dist=b)` returns in the search loop, with the kernel of C01/C03:
`max_dist = 0` means "no bound" (`if not max_dist`), any other bound is handed to the early-abandoning
kernel, whose result is then compared with the bound once more -/
def callDist (g : Grid α) (b : α) : α :=
  if b ≤ 0 then distModel g ⊤ none true else distModel g b none true

/-- **The scan never sees a difference between the early-abandoning kernel and the true distance**: the
test `dist ≤ bound ∧ dist ≠ ∞` made by the search has the same outcome on the kernel's result as on the
optimum over admissible paths, and when it succeeds the kernel's result *is* that optimum (C03). -/
theorem C14_threshold_call (g : Grid α) (h : g.NonNeg) (b : α) :
    ((callDist g b ≤ b ∧ callDist g b ≠ ⊤) ↔ (dtwSpec g ≤ b ∧ dtwSpec g ≠ ⊤)) ∧
    (dtwSpec g ≤ b → callDist g b = dtwSpec g) := by
  unfold callDist
  split
  · rw [distModel_eq_of_le g h ⊤ true le_top]
    exact ⟨Iff.rfl, fun _ => rfl⟩
  next hb =>
    by_cases hle : dtwSpec g ≤ b
    · rw [distModel_eq_of_le g h b true hle]
      exact ⟨Iff.rfl, fun _ => rfl⟩
    · rw [distModel_top_of_gt g h b hb hle]
      simp [hle]

/-! ### `k = None`: the full ranking -/

/-- **`kbest_matches(None)`**: every candidate is reported exactly once, in ascending order of the reported
value; the reported value of a qualifying candidate (finite, within the user bound) is its true distance,
of any other candidate infinity — whether or not the lower-bound skip is used. -/
theorem C14_all (useLb : Bool) (M : α) (cands : List (Nat × α × α)) (hlb : ∀ c ∈ cands, c.2.2 ≤ c.2.1) :
    (knnAll useLb M cands).Pairwise (fun a b => a.1 ≤ b.1) ∧
    (knnAll useLb M cands).Perm (cands.map fun c => (allVal useLb M c, c.1)) ∧
    ∀ c ∈ cands, allVal useLb M c = if c.2.1 ≤ M then c.2.1 else ⊤ :=
  ⟨foldr_insertSorted_sorted _, foldr_insertSorted_perm _, fun c hc => allVal_eq useLb M c (hlb c hc)⟩

/-- after a `None` query nothing is re-used: the next numeric query is answered like on a fresh object -/
theorem C14_after_all (useLb : Bool) (M : α) (cands : List (Nat × α × α)) (o : SSObj α) (k : Nat) :
    (ssQuery useLb M cands (ssQueryAll useLb M cands o).1 k).2 = (knnScan k useLb M cands).best := by
  simp [ssQueryAll, ssQuery]

end Dtai
