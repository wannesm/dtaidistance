import Dtaiverif.Model.Basic
import Dtaiverif.Model.Dtw
import Dtaiverif.Model.Inner
import Dtaiverif.Model.Settings
import Dtaiverif.Model.Bounds
import Dtaiverif.Model.Ops
import Dtaiverif.Proofs.Basic
import Dtaiverif.Proofs.Scan
import Dtaiverif.Proofs.GridDP
import Dtaiverif.Proofs.Prune
import Dtaiverif.Proofs.Dist
import Dtaiverif.Proofs.CostInst
import Dtaiverif.Props.C01
import Dtaiverif.Props.C02
import Dtaiverif.Props.C03
import Dtaiverif.Model.Compact
import Dtaiverif.Proofs.Compact
import Dtaiverif.Proofs.Wps
import Dtaiverif.Props.C04
import Dtaiverif.Model.Path
import Dtaiverif.Proofs.Path
import Dtaiverif.Props.C05
import Dtaiverif.Proofs.Lists
import Dtaiverif.Model.Matrix
import Dtaiverif.Proofs.Matrix
import Dtaiverif.Props.C06
import Dtaiverif.Props.C07
import Dtaiverif.Model.Rolling
import Dtaiverif.Proofs.Rolling
import Dtaiverif.Props.C08
import Dtaiverif.Proofs.Bounds
import Dtaiverif.Props.C09
import Dtaiverif.Proofs.Laws
import Dtaiverif.Props.C10
import Dtaiverif.Props.C11
import Dtaiverif.Model.Dba
import Dtaiverif.Proofs.Dba
import Dtaiverif.Props.C12
import Dtaiverif.Model.SubseqIter
import Dtaiverif.Proofs.Subseq
import Dtaiverif.Proofs.SubseqIter
import Dtaiverif.Props.C13
import Dtaiverif.Model.SubseqSearch
import Dtaiverif.Proofs.SubseqSearch
import Dtaiverif.Props.C14
import Dtaiverif.Model.Hier
import Dtaiverif.Proofs.Hier
import Dtaiverif.Props.C15
import Dtaiverif.Model.KMeans
import Dtaiverif.Props.C16
import Dtaiverif.Model.NW
import Dtaiverif.Proofs.NW
import Dtaiverif.Props.C17
import Dtaiverif.Model.Affinity
import Dtaiverif.Proofs.Affinity
import Dtaiverif.Props.C18
import Dtaiverif.Model.Similarity
import Dtaiverif.Proofs.Similarity
import Dtaiverif.Props.C19
import Dtaiverif.Model.Views
import Dtaiverif.Generated.Contiguity
import Dtaiverif.Proofs.Views
import Dtaiverif.Props.C20
import Dtaiverif.Proofs.SubseqIterRun
import Dtaiverif.Proofs.DbaChain
